import DiffxVerif.Model.Split
/-!
# `pySplit` cuts the data at every separator, and only there

The main structural fact is `pySplit_decomp`: for a non-empty
unbordered separator `nl`, `pySplit nl data = init ++ [last]` where
`data = (init.map (· ++ nl)).flatten ++ last`, every piece is `nl`-free,
`init.length = countOcc nl data`, and `data` ends with `nl` exactly when
`last = []` and `init ≠ []` (`Pieces`).  The `splitLines` facts follow from it.  `Unbordered` is what
keeps occurrences of `nl` from overlapping one another (`no_overlap`: the scan, which jumps over a
separator it has found, misses none) and from straddling the end of a separator-free piece
(`no_straddle`: the decomposition is unique).
-/
namespace Diffx
variable {α : Type} [DecidableEq α]

omit [DecidableEq α] in
theorem exists_concat_of_ne_nil {l : List α} (h : l ≠ []) : ∃ l' y, l = l' ++ [y] :=
  ⟨l.dropLast, l.getLast h, (List.dropLast_concat_getLast h).symm⟩

theorem splitGo_skip (sep : List α) (cur : List α) (pre rest : List α) :
    splitGo sep pre.length cur (pre ++ rest) = splitGo sep 0 cur rest := by
  induction pre with
  | nil => simp
  | cons p ps ih => simpa [splitGo] using ih

omit [DecidableEq α] in
theorem Unbordered.no_overlap {nl : List α} (hu : Unbordered nl) (rest : List α) {k : Nat} (hk0 : 0 < k)
    (hk : k < nl.length) : ¬ nl <+: nl.drop k ++ rest := by
  intro h
  have h3 : nl.drop k <+: nl :=
    List.prefix_of_prefix_length_le (List.prefix_append _ _) h (by simp)
  have e1 : nl.take (nl.length - k) = nl.drop k := by
    have := List.prefix_iff_eq_take.mp h3
    simpa using this.symm
  exact hu (nl.length - k) (by omega) (by omega) (by rw [e1]; congr 1; omega)

omit [DecidableEq α] in
theorem Unbordered.no_straddle {nl x : List α} (hu : Unbordered nl) (rest : List α)
    (hx : ¬ nl <+: x) (hne : x ≠ []) : ¬ nl <+: x ++ (nl ++ rest) := by
  intro h
  by_cases hl : nl.length ≤ x.length
  · exact hx (List.prefix_of_prefix_length_le h (List.prefix_append _ _) hl)
  · have hxl : x.length < nl.length := by omega
    have hxn : x <+: nl :=
      List.prefix_of_prefix_length_le (List.prefix_append _ _) h (by omega)
    obtain ⟨t, ht⟩ := hxn
    subst ht
    have hxpos : 0 < x.length := List.length_pos_iff.mpr hne
    have htpos : 0 < t.length := by simp at hxl; omega
    have h2 : t <+: (x ++ t) ++ rest :=
      (List.prefix_append_right_inj x).mp (by simpa [List.append_assoc] using h)
    have h3 : t <+: x ++ t :=
      List.prefix_of_prefix_length_le h2 (List.prefix_append _ _) (by simp)
    have e1 : (x ++ t).take t.length = t := by
      obtain ⟨u, hu'⟩ := h3; rw [← hu']; simp
    have e2 : (x ++ t).drop ((x ++ t).length - t.length) = t := by simp
    exact hu t.length (by simp; omega) htpos (by rw [e1, e2])

theorem splitGo_piece {nl : List α} (hn : nl ≠ []) (hu : Unbordered nl)
    {x : List α} (rest cur : List α) (hx : NlFree nl x) :
    splitGo nl 0 cur (x ++ (nl ++ rest)) = (cur.reverse ++ x) :: splitGo nl 0 [] rest := by
  induction x generalizing cur with
  | nil =>
    obtain ⟨a, nl', rfl⟩ := List.exists_cons_of_ne_nil hn
    simp only [List.nil_append, List.cons_append, splitGo]
    rw [if_pos (by simp)]
    simp only [List.length_cons, Nat.add_sub_cancel, List.append_nil]
    rw [splitGo_skip]
  | cons a x ih =>
    have hfree : NlFree nl x := fun i => by simpa using hx (i+1)
    have hno : ¬ nl <+: (a :: x) ++ (nl ++ rest) :=
      hu.no_straddle rest (by simpa using hx 0) (by simp)
    simp only [List.cons_append] at hno ⊢
    rw [splitGo, if_neg (by simpa [List.isPrefixOf_iff_prefix] using hno)]
    rw [ih (a :: cur) hfree]; simp

theorem pySplit_join {nl : List α} (hn : nl ≠ []) (hu : Unbordered nl)
    {xs : List (List α)} {last : List α}
    (hxs : ∀ x ∈ xs, NlFree nl x) (hl : NlFree nl last) :
    pySplit nl ((xs.map (· ++ nl)).flatten ++ last) = xs ++ [last] := by
  unfold pySplit
  induction xs with
  | nil =>
    simp only [List.map_nil, List.flatten_nil, List.nil_append]
    suffices h : ∀ cur, splitGo nl 0 cur last = [cur.reverse ++ last] by simpa using h []
    induction last with
    | nil => intro cur; simp [splitGo]
    | cons a l ih =>
      intro cur
      have : ¬ nl <+: a :: l := by simpa using hl 0
      rw [splitGo, if_neg (by simpa [List.isPrefixOf_iff_prefix] using this)]
      rw [ih (fun i => by simpa using hl (i+1))]; simp
  | cons x xs ih =>
    simp only [List.map_cons, List.flatten_cons, List.append_assoc]
    rw [splitGo_piece hn hu _ [] (hxs x (by simp))]
    rw [ih (fun y hy => hxs y (by simp [hy]))]; simp

theorem nlFree_or_first {nl : List α} (hn : nl ≠ []) (d : List α) :
    NlFree nl d ∨ ∃ x rest, d = x ++ (nl ++ rest) ∧ NlFree nl x := by
  induction d with
  | nil => exact .inl fun i h => hn (List.prefix_nil.mp (by simpa using h))
  | cons a d ih =>
    by_cases h0 : nl <+: a :: d
    · obtain ⟨rest, hr⟩ := h0
      exact .inr ⟨[], rest, hr.symm, fun i h => hn (List.prefix_nil.mp (by simpa using h))⟩
    · have cons_free : ∀ x : List α, (nl <+: a :: x → nl <+: a :: d) → NlFree nl x → NlFree nl (a :: x) := by
        intro x hx hf i
        cases i with
        | zero => exact fun h => h0 (hx (by simpa using h))
        | succ i => simpa using hf i
      rcases ih with hf | ⟨x, rest, rfl, hf⟩
      · exact .inl (cons_free d id hf)
      · exact .inr ⟨a :: x, rest, rfl, cons_free x (fun h => h.trans ⟨nl ++ rest, rfl⟩) hf⟩

theorem pySplit_pieces_free {nl : List α} (hn : nl ≠ []) (hu : Unbordered nl) (d : List α) :
    ∀ p ∈ pySplit nl d, NlFree nl p := by
  induction hl : d.length using Nat.strongRecOn generalizing d with
  | _ n ih =>
    rcases nlFree_or_first hn d with hf | ⟨x, rest, rfl, hf⟩
    · have := pySplit_join hn hu (xs := []) (by simp) hf
      simp only [List.map_nil, List.flatten_nil, List.nil_append] at this
      rw [this]
      simpa using hf
    · unfold pySplit
      rw [splitGo_piece hn hu rest [] hf]
      intro p hp
      rcases List.mem_cons.mp hp with rfl | hp
      · simpa using hf
      · have hpos : 0 < nl.length := List.length_pos_iff.mpr hn
        exact ih rest.length (by simp at hl; omega) rest rfl p hp

theorem cons_eq_append_drop {nl : List α} (hn : nl ≠ []) {x : α} {xs : List α}
    (hp : nl.isPrefixOf (x :: xs) = true) : x :: xs = nl ++ xs.drop (nl.length - 1) := by
  have := List.prefix_iff_eq_append.mp (List.isPrefixOf_iff_prefix.mp hp)
  obtain ⟨a, nl', rfl⟩ := List.exists_cons_of_ne_nil hn
  simpa using this.symm

theorem splitGo_decomp (nl : List α) (hn : nl ≠ []) :
    ∀ (d : List α) (skip : Nat) (cur : List α), ∃ init last,
      splitGo nl skip cur d = init ++ [last] ∧
      cur.reverse ++ d.drop skip = (init.map (· ++ nl)).flatten ++ last ∧
      init.length = countGo nl skip d := by
  intro d
  induction d with
  | nil => intro skip cur; exact ⟨[], cur.reverse, by simp [splitGo, countGo]⟩
  | cons x xs ih =>
    intro skip cur
    cases skip with
    | succ k =>
      obtain ⟨init, last, h1, h2, h3⟩ := ih k cur
      exact ⟨init, last, by simpa [splitGo] using h1, by simpa using h2, by simpa [countGo] using h3⟩
    | zero =>
      by_cases hp : nl.isPrefixOf (x :: xs) = true
      · obtain ⟨init, last, h1, h2, h3⟩ := ih (nl.length - 1) []
        refine ⟨cur.reverse :: init, last, by simp [splitGo, hp, h1], ?_, by simp [countGo, hp, h3]; omega⟩
        simp only [List.reverse_nil, List.nil_append] at h2
        simp [cons_eq_append_drop hn hp, h2]
      · obtain ⟨init, last, h1, h2, h3⟩ := ih 0 (x :: cur)
        exact ⟨init, last, by simpa [splitGo, hp] using h1, by simpa using h2, by simpa [countGo, hp] using h3⟩

/-- `data` cut at the occurrences of `nl`: `init` are the pieces in front of an `nl`, `last` is the rest -/
structure Pieces (nl data : List α) (init : List (List α)) (last : List α) : Prop where
  split : pySplit nl data = init ++ [last]
  data_eq : data = (init.map (· ++ nl)).flatten ++ last
  init_free : ∀ x ∈ init, NlFree nl x
  last_free : NlFree nl last
  count : init.length = countOcc nl data
  suffix_iff : nl <:+ data ↔ last = [] ∧ init ≠ []

theorem pySplit_decomp {nl : List α} (data : List α) (hn : nl ≠ []) (hu : Unbordered nl) :
    ∃ init last, Pieces nl data init last := by
  obtain ⟨init, last, h1, h2, h3⟩ := splitGo_decomp nl hn data 0 []
  have hfree := pySplit_pieces_free hn hu data
  unfold pySplit at hfree
  rw [h1] at hfree
  have hfi : ∀ x ∈ init, NlFree nl x := fun x hx => hfree x (by simp [hx])
  have hfl : NlFree nl last := hfree last (by simp)
  simp only [List.reverse_nil, List.nil_append, List.drop_zero] at h2
  refine ⟨init, last, h1, h2, hfi, hfl, h3, ?_, ?_⟩
  · -- the pieces of `data'`, followed by an empty last piece, decompose `data' ++ nl` as well, and a
    -- decomposition into separator-free pieces determines the split (`pySplit_join`): the two coincide
    rintro ⟨data', rfl⟩
    obtain ⟨init', last', g1, g2, _⟩ := splitGo_decomp nl hn data' 0 []
    have gfree := pySplit_pieces_free hn hu data'
    unfold pySplit at gfree
    rw [g1] at gfree
    simp only [List.reverse_nil, List.nil_append, List.drop_zero] at g2
    have key := pySplit_join hn hu (last := []) gfree (fun i => by simpa using hn)
    have e : ((init' ++ [last']).map (· ++ nl)).flatten ++ [] = data' ++ nl := by
      simp [g2]
    rw [e] at key
    unfold pySplit at key
    rw [h1] at key
    obtain ⟨k1, k2⟩ := List.append_inj' key rfl
    subst k1
    simpa using k2
  · rintro ⟨rfl, hi⟩
    obtain ⟨init', y, rfl⟩ := exists_concat_of_ne_nil hi
    rw [h2]
    exact ⟨(init'.map (· ++ nl)).flatten ++ y, by simp⟩

theorem Pieces.keep {nl data : List α} {init : List (List α)} {last : List α} (h : Pieces nl data init last) :
    splitLines data nl true = init.map (· ++ nl) ++ (if nl <:+ data then [] else [last]) := by
  unfold splitLines
  by_cases hs : nl <:+ data <;> simp [h.split, List.isSuffixOf_iff_suffix, hs]

theorem Pieces.drop {nl data : List α} {init : List (List α)} {last : List α} (h : Pieces nl data init last) :
    splitLines data nl false = init ++ (if nl <:+ data then [] else [last]) := by
  unfold splitLines
  by_cases hs : nl <:+ data <;> simp [h.split, List.isSuffixOf_iff_suffix, hs]

theorem splitLines_of_lines (nl : List α) (hn : nl ≠ []) (hu : Unbordered nl) (xs : List (List α))
    (hne : xs ≠ []) (hxs : ∀ x ∈ xs, NlFree nl x) (keepEnds : Bool) :
    splitLines (xs.map (· ++ nl)).flatten nl keepEnds = if keepEnds then xs.map (· ++ nl) else xs := by
  have hj := pySplit_join hn hu (last := []) hxs (fun i => by simpa using hn)
  rw [List.append_nil] at hj
  have hs : nl <:+ (xs.map (· ++ nl)).flatten := by
    obtain ⟨init, last, rfl⟩ := exists_concat_of_ne_nil hne
    exact ⟨(init.map (· ++ nl)).flatten ++ last, by simp⟩
  unfold splitLines
  cases keepEnds <;> simp [hj, List.isSuffixOf_iff_suffix, hs]

omit [DecidableEq α] in
theorem NlFree.not_suffix {nl l : List α} (h : NlFree nl l) : ¬ nl <:+ l := by
  intro hs
  apply h (l.length - nl.length)
  rw [← List.suffix_iff_eq_drop.mp hs]
  exact List.prefix_refl _

omit [DecidableEq α] in
theorem once_of_free {nl x : List α} (hn : nl ≠ []) (hu : Unbordered nl) (hx : NlFree nl x)
    {i : Nat} (h : nl <+: (x ++ nl).drop i) : i + nl.length = (x ++ nl).length := by
  have hlen := h.length_le
  simp only [List.length_drop, List.length_append] at hlen
  by_cases hi : i < x.length
  · exfalso
    rw [List.drop_append_of_le_length (by omega)] at h
    have := hu.no_straddle [] (hx i) (by
      intro h0
      have := congrArg List.length h0
      simp at this; omega)
    simp only [List.append_nil] at this
    exact this h
  · have : 0 < nl.length := List.length_pos_iff.mpr hn
    simp only [List.length_append]
    omega

theorem stripOneEnd_append (nl x : List α) : stripOneEnd nl (x ++ nl) = x := by
  unfold stripOneEnd
  simp [List.isSuffixOf_iff_suffix]

theorem stripOneEnd_free {nl x : List α} (h : NlFree nl x) : stripOneEnd nl x = x := by
  unfold stripOneEnd
  simp [List.isSuffixOf_iff_suffix, h.not_suffix]

/-! The line count, and that the last line of terminated data is terminated, hold for every non-empty
separator, bordered or not: they rest on `splitGo_decomp` alone. -/

theorem splitLines_keep_length {nl : List α} (data : List α) (hn : nl ≠ []) :
    (splitLines data nl true).length = countOcc nl data + (if nl <:+ data then 0 else 1) := by
  obtain ⟨init, last, h1, _, h3⟩ := splitGo_decomp nl hn data 0 []
  unfold splitLines pySplit
  by_cases hs : nl <:+ data <;> simp [h1, List.isSuffixOf_iff_suffix, hs, countOcc, h3]

theorem splitGo_two {nl : List α} (hn : nl ≠ []) {d : List α} (cur : List α) {i : Nat} (h : nl <+: d.drop i) :
    2 ≤ (splitGo nl 0 cur d).length := by
  induction d generalizing cur i with
  | nil =>
    simp at h
    exact absurd h hn
  | cons x xs ih =>
    unfold splitGo
    split
    · obtain ⟨init, last, h1, _, _⟩ := splitGo_decomp nl hn xs (nl.length - 1) []
      rw [h1]; simp
    · rename_i hnp
      cases i with
      | zero => simp [List.isPrefixOf_iff_prefix] at hnp; exact absurd h hnp
      | succ j => exact ih _ (by simpa using h)

theorem splitLines_last_suffix {nl d : List α} (hn : nl ≠ []) (hs : nl <:+ d) :
    ∃ ls x, splitLines d nl true = ls ++ [x ++ nl] := by
  have h2 := splitGo_two hn [] (i := d.length - nl.length) (by
    rw [← List.suffix_iff_eq_drop.mp hs]; exact List.prefix_refl _)
  obtain ⟨init, last, h1, _, _⟩ := splitGo_decomp nl hn d 0 []
  rw [h1] at h2
  have hi : init ≠ [] := by
    intro h0; subst h0; simp at h2
  obtain ⟨init', y, rfl⟩ := exists_concat_of_ne_nil hi
  refine ⟨init'.map (· ++ nl), y, ?_⟩
  unfold splitLines pySplit
  rw [h1]
  simp [List.isSuffixOf_iff_suffix, hs]

omit [DecidableEq α] in
/-- for the writer's indentation: spaces in front of a piece bring no separator in -/
theorem nlFree_replicate {nl x : List α} (c : α) (n : Nat) (hn : nl ≠ []) (hc : c ∉ nl) (hx : NlFree nl x) :
    NlFree nl (List.replicate n c ++ x) := by
  intro i hp
  by_cases hi : i < n
  · rw [List.drop_append_of_le_length (by simp; omega), List.drop_replicate] at hp
    obtain ⟨k, hk⟩ : ∃ k, n - i = k + 1 := ⟨n - i - 1, by omega⟩
    rw [hk, List.replicate_succ] at hp
    obtain ⟨a, nl', rfl⟩ := List.exists_cons_of_ne_nil hn
    obtain ⟨t, ht⟩ := hp
    simp only [List.cons_append, List.cons.injEq] at ht
    apply hc
    rw [ht.1]; simp
  · have : (List.replicate n c ++ x).drop i = x.drop (i - n) := by
      rw [List.drop_append]; simp; omega
    rw [this] at hp
    exact hx _ hp

/-- number of positions at which `nl` occurs (overlapping occurrences included) -/
def occAll (nl : List α) : List α → Nat
  | [] => 0
  | x :: xs => (if nl.isPrefixOf (x :: xs) then 1 else 0) + occAll nl xs

theorem occAll_eq_filter {nl : List α} (hn : nl ≠ []) (d : List α) :
    ((List.range (d.length + 1)).filter (fun i => nl.isPrefixOf (d.drop i))).length
      = occAll nl d := by
  induction d with
  | nil =>
    obtain ⟨a, nl', rfl⟩ := List.exists_cons_of_ne_nil hn
    simp [occAll]
  | cons x xs ih =>
    rw [List.length_cons, List.range_succ_eq_map, List.filter_cons, List.filter_map,
      occAll, ← ih]
    have e : ((fun i => nl.isPrefixOf ((x :: xs).drop i)) ∘ Nat.succ)
        = (fun i => nl.isPrefixOf (xs.drop i)) := by
      funext i; simp
    rw [e]
    by_cases hp : nl.isPrefixOf (x :: xs) = true
    · simp [hp]; omega
    · simp [hp]

theorem countGo_eq_occAll {nl : List α} (hu : Unbordered nl) :
    ∀ (d : List α) (skip : Nat), (∀ i, i < skip → ¬ nl <+: d.drop i) →
      countGo nl skip d = occAll nl d := by
  intro d
  induction d with
  | nil => intro skip _; simp [countGo, occAll]
  | cons x xs ih =>
    intro skip hs
    cases skip with
    | succ k =>
      have h0 : ¬ nl <+: x :: xs := by simpa using hs 0 (by omega)
      have h0' : ¬ nl.isPrefixOf (x :: xs) = true := by
        simpa [List.isPrefixOf_iff_prefix] using h0
      rw [countGo, occAll, if_neg h0', ih k (fun i hi => by simpa using hs (i+1) (by omega))]
      simp
    | zero =>
      by_cases hp : nl.isPrefixOf (x :: xs) = true
      · rw [countGo, occAll, if_pos hp, if_pos hp]
        congr 1
        apply ih
        intro i hi
        obtain ⟨rest, hr⟩ := List.isPrefixOf_iff_prefix.mp hp
        have e : xs.drop i = nl.drop (i + 1) ++ rest := by
          have : xs.drop i = (x :: xs).drop (i + 1) := by simp
          rw [this, ← hr, List.drop_append_of_le_length (by omega)]
        rw [e]
        exact hu.no_overlap rest (k := i + 1) (by omega) (by omega)
      · rw [countGo, occAll, if_neg hp, if_neg hp, ih 0 (fun i hi => by omega)]
        simp

end Diffx
