import DiffxVerif.Lemmas.Lexer
import DiffxVerif.Lemmas.HeaderLine
import DiffxVerif.Lemmas.Table
import DiffxVerif.Lemmas.SpecFile
import DiffxVerif.Lemmas.CodecProofs
import DiffxVerif.Spec.Document
/-!
# From specification documents to the lexer's documents

The header theorem of the lexer (`C20_headers`, from `lexGo_secs` of `Lemmas/Lexer.lean`) is about a text
given as a list of `Lexer.Sec` (tag, option string, content, all as code points).  This file connects
it with the byte-level specification of DiffX files (`Spec/Document.lean`), which is what the
writer is proved to produce (`Properties/C02Doc.lean`).  `lexSecs doc texts` are the `Lexer.Sec`s
of a specification document whose section contents are the UTF-8 encodings of `texts`.  The UTF-8
encoding of their text is `Spec.render false doc`, because header lines are ASCII (the nine section
ids, and the option keys / values by the header grammar); hence `decChars utf8Step` of the file is
that text.  They are `Sec.Benign` and form a `Document` when the specification document is
well-formed (`Spec.WF`) without blank lines and no text contains `#.`.
-/
namespace Diffx.LexerBridge
open Diffx Diffx.Lexer Diffx.Codecs
open Diffx.C20 (NoHashDot)

/-- ASCII bytes as code points -/
def asciiStr (b : Bytes) : Str := b.map (·.toNat)

/-- the header tag of a section id as the lexer sees it: `#`, dots, name, `:` -/
def idTag (id : SecId) : Str := asciiStr ([35] ++ id.bytes ++ [58])

/-- `idTag s.id` -/
def tagOf (s : Spec.Sec) : Str := asciiStr ([35] ++ s.id.bytes ++ [58])

/-- the lexer rule that applies to a section id -/
def headOf (id : SecId) : Head :=
  match id.name with
  | .metadata => .metadata
  | .preamble => .preamble
  | .diff => .diff
  | _ => .container

/-- the option string (what follows `: ` on the header line), if any -/
def attrsOf (s : Spec.Sec) : Option Str :=
  if s.opts.isEmpty then none else some (asciiStr (Spec.joinPairs s.opts))

/-- a specification section whose content is the encoding of `t`, as a lexer section -/
def lexSec (s : Spec.Sec) (t : Str) : Lexer.Sec := ⟨headOf s.id, tagOf s, attrsOf s, t⟩

def lexSecs : List Spec.Sec → List Str → List Lexer.Sec
  | s :: doc, t :: texts => lexSec s t :: lexSecs doc texts
  | _, _ => []

/-- the content of every section is the UTF-8 encoding of the corresponding text (one text per
section, `[]` for containers): `List.Forall₂` of `encChars utf8Char t = some s.content` -/
def Utf8Doc : List Spec.Sec → List Str → Prop
  | [], [] => True
  | s :: doc, t :: texts => encChars utf8Char t = some s.content ∧ Utf8Doc doc texts
  | _, _ => False

theorem asciiStr_append (a b : Bytes) : asciiStr (a ++ b) = asciiStr a ++ asciiStr b := by
  simp [asciiStr]

theorem enc_ascii (b : Bytes) (h : ∀ x ∈ b, x.toNat < 128) : encChars utf8Char (asciiStr b) = some b := by
  have := Codec.encChars_ascii .utf8 (asciiStr b) (by simpa [asciiStr] using h)
  rw [show utf8Char = Codec.utf8.encChar from rfl, this]
  simp [asciiStr, Codec.asciiBytes, List.flatMap_map]

theorem asciiStr_no_nl (b : Bytes) (h : ∀ x ∈ b, Header.lineChar x = true) : (10 : Nat) ∉ asciiStr b := by
  intro hm
  obtain ⟨x, hx, h10⟩ := List.mem_map.mp hm
  exact (Header.lineChar_facts x (h x hx)).2.1 (UInt8.toNat_inj.mp h10)

theorem lexSec_text (s : Spec.Sec) (t : Str) :
    C20.Sec.text (lexSec s t) = asciiStr (Spec.headerLine s.id s.opts ++ [10]) ++ t := by
  unfold C20.Sec.text lexSec attrsOf tagOf Spec.headerLine
  cases h : s.opts.isEmpty <;> simp [asciiStr]

theorem enc_lexSec (s : Spec.Sec) (t : Str)
    (hg : ∀ p ∈ s.opts, Header.keyOk p.1 = true ∧ Header.valOk p.2 = true) (hb : s.blank = [])
    (ht : encChars utf8Char t = some s.content) :
    encChars utf8Char (C20.Sec.text (lexSec s t)) = some (Spec.renderSec false s) := by
  have h1 : encChars utf8Char (asciiStr (Spec.headerLine s.id s.opts ++ [10])) =
      some (Spec.headerLine s.id s.opts ++ [10]) := by
    apply enc_ascii
    intro x hx
    rcases List.mem_append.mp hx with hx | hx
    · exact (Header.lineChar_facts x (Header.headerLine_lineChar s.id hg x hx)).1
    · rw [List.mem_singleton.mp hx]; decide
  rw [lexSec_text, encChars_append_some h1 ht]
  simp [Spec.renderSec, hb, Spec.renderBlank, Spec.headerNl]

/-- the part of `Spec.SecOk` the lexer theorem needs -/
structure SecFacts (s : Spec.Sec) : Prop where
  legal : s.id ∈ SecId.legal
  grammar : ∀ p ∈ s.opts, Header.keyOk p.1 = true ∧ Header.valOk p.2 = true
  noContent : s.hasContent = false → s.content = []
  nonempty : s.hasContent = true → s.content ≠ []

theorem allowedNext_legal (p : Option SecId) (id : SecId) (h : id ∈ Spec.allowedNext p) : id ∈ SecId.legal := by
  cases p with
  | none => rw [List.mem_singleton.mp h]; decide
  | some p => exact validNext_legal h

theorem validNext_tag {p id : SecId} (h : id ∈ validNext p) : t!"#." <+: idTag id :=
  forall_validNext (P := fun _ t => t!"#." <+: idTag t) (by decide) h

theorem secFacts_of_secOk {env : Env} {cfg : Config} {c : Spec.Ctx} {s : Spec.Sec}
    (h : Spec.SecOk env cfg c s) : SecFacts s where
  legal := allowedNext_legal _ _ h.allowed
  grammar := h.grammar
  noContent := h.noContent
  nonempty := fun hc => (endsWith_iff_suffix.mp (h.nlTerminated hc)).ne_nil (h.nlNonempty hc)

theorem wfFrom_facts {env : Env} {cfg : Config} :
    ∀ {doc : List Spec.Sec} {c : Spec.Ctx}, Spec.WFFrom env cfg c doc → ∀ s ∈ doc, SecFacts s := by
  intro doc
  induction doc with
  | nil => intro c _ s hs; cases hs
  | cons s0 doc ih =>
    intro c h s hs
    rcases List.mem_cons.mp hs with rfl | hs
    · exact secFacts_of_secOk h.1
    · exact ih h.2 s hs

theorem wfFrom_tag {env : Env} {cfg : Config} :
    ∀ {doc : List Spec.Sec} {c : Spec.Ctx}, c.prev.isSome = true → Spec.WFFrom env cfg c doc →
      ∀ s ∈ doc, t!"#." <+: tagOf s := by
  intro doc
  induction doc with
  | nil => intro c _ _ s hs; cases hs
  | cons s0 doc ih =>
    intro c hc h s hs
    rcases List.mem_cons.mp hs with rfl | hs
    · have := h.1.allowed
      cases hp : c.prev with
      | none => rw [hp] at hc; cases hc
      | some p => rw [hp] at this; exact validNext_tag this
    · exact ih (by rw [SpecFile.next_prev]; rfl) h.2 s hs

theorem legal_rules : ∀ id ∈ SecId.legal,
    matchTag (idTag id ++ [10]) = some (headOf id, idTag id, [10]) ∧
    (headOf id = .container ↔ contentSections.contains id = false) := by decide +kernel

theorem benign_lexSec (s : Spec.Sec) (t : Str) (hf : SecFacts s)
    (ht : encChars utf8Char t = some s.content) (hnd : NoHashDot t) : C20.Sec.Benign (lexSec s t) := by
  obtain ⟨hrule, hcont⟩ := legal_rules s.id hf.legal
  refine ⟨hrule, ?_, ?_, ?_⟩
  · intro a ha
    simp only [lexSec, attrsOf] at ha
    split at ha
    · cases ha
    · cases ha
      exact asciiStr_no_nl _ (Header.joinPairs_lineChar s.opts hf.grammar)
  · intro hc
    have := hf.noContent (hcont.mp hc)
    rw [this] at ht
    exact stepOk_utf8.encChars_nil t ht
  · intro hc
    have hne := hf.nonempty (Bool.of_not_eq_false (mt hcont.mpr hc))
    refine ⟨?_, hnd⟩
    rintro rfl
    have he : some [] = some s.content := ht
    exact hne (Option.some.inj he).symm

theorem lexSecs_tags : ∀ (doc : List Spec.Sec) (texts : List Str), Utf8Doc doc texts →
    (lexSecs doc texts).map (·.tag) = doc.map tagOf
  | [], [], _ => rfl
  | s :: doc, t :: texts, h => by
    simp only [lexSecs, List.map_cons, lexSecs_tags doc texts h.2]
    rfl
  | [], _ :: _, h => h.elim
  | _ :: _, [], h => h.elim

theorem lexSecs_mem : ∀ (doc : List Spec.Sec) (texts : List Str), Utf8Doc doc texts →
    ∀ x ∈ lexSecs doc texts, ∃ s ∈ doc, ∃ t ∈ texts, x = lexSec s t ∧ encChars utf8Char t = some s.content
  | [], [], _ => fun x hx => by cases hx
  | s :: doc, t :: texts, h => fun x hx => by
    simp only [lexSecs, List.mem_cons] at hx
    rcases hx with rfl | hx
    · exact ⟨s, List.mem_cons_self .., t, List.mem_cons_self .., rfl, h.1⟩
    · obtain ⟨s', hs', t', ht', he, hc⟩ := lexSecs_mem doc texts h.2 x hx
      exact ⟨s', List.mem_cons_of_mem _ hs', t', List.mem_cons_of_mem _ ht', he, hc⟩
  | [], _ :: _, h => h.elim
  | _ :: _, [], h => h.elim

theorem enc_lexSecs : ∀ (doc : List Spec.Sec) (texts : List Str), Utf8Doc doc texts →
    (∀ s ∈ doc, SecFacts s) → (∀ s ∈ doc, s.blank = []) →
    encChars utf8Char ((lexSecs doc texts).flatMap C20.Sec.text) = some (Spec.render false doc)
  | [], [], _, _, _ => rfl
  | s :: doc, t :: texts, h, hf, hb => by
    have h1 := enc_lexSec s t (hf s (List.mem_cons_self ..)).grammar (hb s (List.mem_cons_self ..)) h.1
    have h2 := enc_lexSecs doc texts h.2 (fun x hx => hf x (List.mem_cons_of_mem _ hx))
      (fun x hx => hb x (List.mem_cons_of_mem _ hx))
    simp only [lexSecs, List.flatMap_cons]
    rw [encChars_append_some h1 h2]
    rfl
  | [], _ :: _, h, _, _ => h.elim
  | _ :: _, [], h, _, _ => h.elim

theorem benign_lexSecs (doc : List Spec.Sec) (texts : List Str) (hu : Utf8Doc doc texts)
    (hf : ∀ s ∈ doc, SecFacts s) (hnd : ∀ t ∈ texts, NoHashDot t) :
    ∀ x ∈ lexSecs doc texts, C20.Sec.Benign x := by
  intro x hx
  obtain ⟨s, hs, t, ht, rfl, hc⟩ := lexSecs_mem doc texts hu x hx
  exact benign_lexSec s t (hf s hs) hc (hnd t ht)

theorem document_lexSecs {env : Env} {cfg : Config} {doc : List Spec.Sec} {texts : List Str}
    (hwf : Spec.WF env cfg doc) (hu : Utf8Doc doc texts) : C20.Document (lexSecs doc texts) := by
  match doc, texts, hwf, hu with
  | [], _, hwf, _ => exact absurd rfl hwf.nonempty
  | _ :: _, [], _, hu => exact hu.elim
  | s :: doc, t :: texts, hwf, hu =>
    obtain ⟨h1, h2⟩ := hwf.sections
    have hmain : s.id = SecId.main := List.mem_singleton.mp h1.allowed
    refine ⟨?_, ?_⟩
    · show tagOf s = _
      unfold tagOf
      rw [hmain]
      rfl
    · intro r hr
      obtain ⟨s', hs', -, -, rfl, -⟩ := lexSecs_mem doc texts hu.2 r hr
      exact wfFrom_tag (by rw [SpecFile.next_prev]; rfl) h2 s' hs'

end Diffx.LexerBridge
