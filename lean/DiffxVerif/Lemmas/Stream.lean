import DiffxVerif.Model.Reader
import DiffxVerif.Lemmas.Basic
/-!
# The chunked read-ahead `readUntil`: the block size does not matter

`readUntilGo_spec` is the generalisation over accumulator and fuel: with a positive block size
`readUntil` is `readLineSpec`, so everything about lines and `nextLine` is proved of the
specification and holds for every block size.
-/
namespace Diffx.Reader
open Diffx

theorem findSub_single_nil (c : UInt8) : findSub [c] ([] : Bytes) = none := rfl

theorem readUntilGo_spec {chunk : Nat} (hc : 0 < chunk) (c : UInt8) {fuel : Nat} (acc : Bytes) {rest : Bytes}
    (hf : rest.length < fuel) :
    readUntilGo chunk c fuel acc rest =
      match findSub [c] rest with
      | some i => (acc ++ rest.take (i + 1), false, rest.drop (i + 1))
      | none => (acc ++ rest, true, []) := by
  induction fuel generalizing acc rest with
  | zero => omega
  | succ fuel ih =>
    rw [readUntilGo]
    by_cases hemp : (rest.take chunk).isEmpty = true
    · have hrest : rest = [] := by
        cases rest with
        | nil => rfl
        | cons x r =>
          cases chunk with
          | zero => omega
          | succ k => simp at hemp
      subst hrest
      simp [findSub_single_nil]
    · simp only [hemp, if_false, Bool.false_eq_true]
      have hsplit : rest.take chunk ++ rest.drop chunk = rest := List.take_append_drop _ _
      have hne : rest ≠ [] := by
        intro h; subst h; simp at hemp
      have hlen : (rest.drop chunk).length < fuel := by
        have : 0 < rest.length := List.length_pos_iff.mpr hne
        simp only [List.length_drop]; omega
      cases hch : findSub [c] (rest.take chunk) with
      | some i =>
        have hi := findSub_singleton_lt hch
        have hfull := findSub_singleton_append_some (rest.drop chunk) hch
        rw [hsplit] at hfull
        simp only [hfull]
        have hi' : i + 1 ≤ chunk := by
          simp only [List.length_take] at hi; omega
        rw [List.take_take, Nat.min_eq_left hi']
      | none =>
        have hfull := findSub_singleton_append_none (rest.drop chunk) hch
        rw [hsplit] at hfull
        simp only []
        rw [ih _ hlen, hfull]
        cases hd : findSub [c] (rest.drop chunk) with
        | none =>
          simp only [Option.map_none, List.append_assoc, hsplit]
        | some j =>
          simp only [Option.map_some, List.append_assoc]
          have hj := findSub_singleton_lt hd
          have hcl : (rest.take chunk).length = chunk := by
            simp only [List.length_drop] at hj
            simp only [List.length_take]; omega
          rw [hcl]
          have e1 : rest.take chunk ++ (rest.drop chunk).take (j + 1) = rest.take (j + chunk + 1) := by
            rw [show j + chunk + 1 = chunk + (j + 1) by omega]
            exact (List.take_add (l := rest) (i := chunk) (j := j + 1)).symm
          have e2 : (rest.drop chunk).drop (j + 1) = rest.drop (j + chunk + 1) := by
            rw [List.drop_drop]; congr 1; omega
          rw [e1, e2]

theorem readUntil_eq_spec {chunk : Nat} (hc : 0 < chunk) (c : UInt8) (rest : Bytes) :
    readUntil chunk c rest = readLineSpec c rest := by
  unfold readUntil readLineSpec
  rw [readUntilGo_spec hc c _ (Nat.lt_succ_self _)]
  cases findSub [c] rest <;> simp

theorem readUntil_zero (c : UInt8) (rest : Bytes) : (readUntil 0 c rest).2.1 = true := by
  simp [readUntil, readUntilGo]

theorem readLineSpec_line {c : UInt8} {a : Bytes} (r : Bytes) (ha : c ∉ a) :
    readLineSpec c (a ++ c :: r) = (a ++ [c], false, r) := by
  unfold readLineSpec
  rw [(findSub_singleton_eq_some_iff c _ _).2 ⟨a, r, rfl, ha, rfl⟩, List.append_cons a c r]
  dsimp only
  rw [List.take_left' (by simp), List.drop_left' (by simp)]

theorem readLineSpec_false {c : UInt8} {rest line r' : Bytes} (h : readLineSpec c rest = (line, false, r')) :
    ∃ a, c ∉ a ∧ line = a ++ [c] ∧ rest = a ++ c :: r' := by
  cases hf : findSub [c] rest with
  | none => simp [readLineSpec, hf] at h
  | some i =>
    obtain ⟨a, b, rfl, ha, rfl⟩ := (findSub_singleton_eq_some_iff c rest i).1 hf
    rw [readLineSpec_line b ha] at h
    cases h
    exact ⟨a, ha, rfl, rfl⟩

theorem readLineSpec_append {c : UInt8} {a line r' : Bytes} (t : Bytes) (h : readLineSpec c a = (line, false, r')) :
    readLineSpec c (a ++ t) = (line, false, r' ++ t) := by
  obtain ⟨x, hx, rfl, rfl⟩ := readLineSpec_false h
  rw [List.append_assoc, List.cons_append]
  exact readLineSpec_line (r' ++ t) hx

theorem readUntil_noeof {chunk : Nat} {c : UInt8} {rest line rest' : Bytes}
    (h : readUntil chunk c rest = (line, false, rest')) :
    rest = line ++ rest' ∧ c ∈ line := by
  cases chunk with
  | zero => have := readUntil_zero c rest; rw [h] at this; simp at this
  | succ k =>
    rw [readUntil_eq_spec (chunk := k + 1) (by omega)] at h
    obtain ⟨a, -, rfl, rfl⟩ := readLineSpec_false h
    exact ⟨by simp, by simp⟩

theorem nextLine_spec {chunk fuel : Nat} {rest line rest' : Bytes}
    (h : nextLine chunk fuel rest = some (line, rest')) :
    ∃ pre, rest = pre ++ line ++ rest' ∧ (10 : UInt8) ∈ line := by
  induction fuel generalizing rest with
  | zero => simp [nextLine] at h
  | succ fuel ih =>
    rw [nextLine] at h
    rcases hr : readUntil chunk 10 rest with ⟨ln, eof, r'⟩
    rw [hr] at h
    simp only at h
    cases eof with
    | true => simp at h
    | false =>
      obtain ⟨e1, e2⟩ := readUntil_noeof hr
      simp only [Bool.false_eq_true, if_false] at h
      split at h
      · simp only [Option.some.injEq, Prod.mk.injEq] at h
        obtain ⟨rfl, rfl⟩ := h
        exact ⟨[], by simpa using e1, e2⟩
      · obtain ⟨pre, hp, hm⟩ := ih h
        exact ⟨ln ++ pre, by rw [e1, hp]; simp, hm⟩

theorem nextLine_chunk_zero (fuel : Nat) (rest : Bytes) : nextLine 0 fuel rest = none := by
  cases fuel with
  | zero => rfl
  | succ fuel =>
    rw [nextLine]
    have := readUntil_zero 10 rest
    rcases hr : readUntil 0 10 rest with ⟨line, eof, r'⟩
    rw [hr] at this
    simp only at this
    subst this
    rfl

theorem nextLine_fuel (chunk : Nat) {f₁ f₂ : Nat} {rest : Bytes} (h₁ : rest.length < f₁) (h₂ : rest.length < f₂) :
    nextLine chunk f₁ rest = nextLine chunk f₂ rest := by
  induction f₁ generalizing rest f₂ with
  | zero => omega
  | succ f₁ ih =>
    cases f₂ with
    | zero => omega
    | succ f₂ =>
      rw [nextLine, nextLine]
      rcases hr : readUntil chunk 10 rest with ⟨ln, eof, r'⟩
      simp only
      cases eof with
      | true => rfl
      | false =>
        obtain ⟨e1, e2⟩ := readUntil_noeof hr
        have hl : 0 < ln.length := List.length_pos_of_mem e2
        have hlen : r'.length < rest.length := by rw [e1, List.length_append]; omega
        simp only [Bool.false_eq_true, if_false]
        by_cases hs : (!(pyStrip ln).isEmpty) = true
        · simp only [hs, if_true]
        · simp only [hs]
          exact ih (by omega) (by omega)

theorem nextLine_append {chunk : Nat} (hc : 0 < chunk) (t : Bytes) {fuel : Nat} {a line r' : Bytes}
    (h : nextLine chunk fuel a = some (line, r')) {fuel' : Nat} (hf : fuel ≤ fuel') :
    nextLine chunk fuel' (a ++ t) = some (line, r' ++ t) := by
  induction fuel generalizing a fuel' with
  | zero => simp [nextLine] at h
  | succ fuel ih =>
    cases fuel' with
    | zero => omega
    | succ fuel' =>
      rw [nextLine, readUntil_eq_spec hc] at h ⊢
      rcases hr : readLineSpec 10 a with ⟨ln, eof, r1⟩
      rw [hr] at h
      cases eof with
      | true => simp at h
      | false =>
        rw [readLineSpec_append t hr]
        simp only [Bool.false_eq_true, if_false] at h ⊢
        by_cases hs : (!(pyStrip ln).isEmpty) = true
        · simp only [hs, if_true, Option.some.injEq, Prod.mk.injEq] at h ⊢
          obtain ⟨rfl, rfl⟩ := h
          exact ⟨rfl, rfl⟩
        · simp only [hs] at h ⊢
          exact ih h (by omega)

theorem nextLine_line {chunk : Nat} (hc : 0 < chunk) {l : Bytes} (rest : Bytes) (fuel : Nat) (hn : (10 : UInt8) ∉ l) :
    nextLine chunk (fuel + 1) (l ++ [10] ++ rest) =
      if (pyStrip (l ++ [10])).isEmpty then nextLine chunk fuel rest else some (l ++ [10], rest) := by
  rw [nextLine, readUntil_eq_spec hc, List.append_assoc, List.singleton_append, readLineSpec_line rest hn]
  dsimp only
  cases (pyStrip (l ++ [10])).isEmpty <;> rfl

theorem nextLine_blank_line {chunk : Nat} (hc : 0 < chunk) {l : Bytes} (rest : Bytes) (fuel : Nat)
    (hw : ∀ b ∈ l, isWs b = true) (hn : (10 : UInt8) ∉ l) :
    nextLine chunk (fuel + 1) (l ++ [10] ++ rest) = nextLine chunk fuel rest := by
  have hstrip : pyStrip (l ++ [10]) = [] := by
    apply (pyStrip_eq_nil_iff _).2
    intro b hb
    rcases List.mem_append.mp hb with hb | hb
    · exact hw b hb
    · simp only [List.mem_singleton] at hb; subst hb; decide
  rw [nextLine_line hc rest fuel hn, hstrip]
  rfl

theorem nextLine_exact {chunk : Nat} (hc : 0 < chunk) {h nl : Bytes} (post : Bytes) (fuel : Nat)
    (hnl : nl = [10] ∨ nl = [13, 10]) (hb : ∀ b ∈ h, b ≠ 10 ∧ b ≠ 13) (hh : ∃ r, h = 35 :: r) :
    nextLine chunk (fuel + 1) (h ++ nl ++ post) = some (h ++ nl, post) := by
  obtain ⟨l, hl, hn⟩ : ∃ l, h ++ nl = l ++ [10] ∧ (10 : UInt8) ∉ l := by
    rcases hnl with rfl | rfl
    · exact ⟨h, rfl, fun hm => (hb 10 hm).1 rfl⟩
    · refine ⟨h ++ [13], by simp, ?_⟩
      simp only [List.mem_append, List.mem_singleton, not_or]
      exact ⟨fun hm => (hb 10 hm).1 rfl, by decide⟩
  -- `hh` is here for one thing: a line that starts with `#` is not blank
  have hstrip : (pyStrip (h ++ nl)).isEmpty = false := by
    obtain ⟨r, rfl⟩ := hh
    have : pyStrip (35 :: r ++ nl) ≠ [] :=
      fun h => absurd ((pyStrip_eq_nil_iff _).1 h 35 (by simp)) (by decide)
    simpa using this
  rw [hl] at hstrip ⊢
  rw [nextLine_line hc post fuel hn, hstrip]
  rfl

theorem nextLine_chunk_independent {c₁ c₂ : Nat} (h₁ : 0 < c₁) (h₂ : 0 < c₂) (fuel : Nat)
    (rest : Bytes) : nextLine c₁ fuel rest = nextLine c₂ fuel rest := by
  induction fuel generalizing rest with
  | zero => rfl
  | succ fuel ih =>
    simp only [nextLine, readUntil_eq_spec h₁, readUntil_eq_spec h₂, ih]

theorem readHeader_chunk_independent {c₁ c₂ : Nat} (h₁ : 0 < c₁) (h₂ : 0 < c₂) :
    readHeader c₁ = readHeader c₂ := by
  funext valid st
  simp only [readHeader, nextLine_chunk_independent h₁ h₂]

theorem stepSection_chunk_independent (env : Env) (cfg : Config) {c₁ c₂ : Nat} (h₁ : 0 < c₁)
    (h₂ : 0 < c₂) : stepSection env cfg c₁ = stepSection env cfg c₂ := by
  funext l
  simp only [stepSection, readHeader_chunk_independent h₁ h₂]

theorem readLoop_chunk_independent (env : Env) (cfg : Config) {c₁ c₂ : Nat} (h₁ : 0 < c₁)
    (h₂ : 0 < c₂) (fuel : Nat) (l : Loop) :
    readLoop env cfg c₁ fuel l = readLoop env cfg c₂ fuel l := by
  induction fuel generalizing l with
  | zero => rfl
  | succ fuel ih =>
    simp only [readLoop, stepSection_chunk_independent env cfg h₁ h₂, ih]

end Diffx.Reader
