import DiffxVerif.Lemmas.Prepare
import DiffxVerif.Lemmas.RunRoundTrip
/-!
# Faithful codecs: the text read back is the text written

`TextLaws` (Lemmas/RoundTrip.lean) are pointwise facts about the environment; the text the
reader returns is `laws.decoded`, the decoding of the prepared bytes.  `CodecFaithful` states three
laws about a codec, for all texts, that mention neither writer nor reader.  Under them the prepared
bytes are the encoding of the normalised text (`CodecFaithful.encode_norm`, the one argument about the codec),
so `laws.decoded = normText t (textDos le t)`; and with `CodecNewlines` they give `TextLaws` for
every text `_prepare_content` accepts (`TextLaws.ofFaithful`).
-/
namespace Diffx
open Diffx.Writer

/-- the normalisation property C01 speaks of: a missing final line ending, of kind `dos`, is appended -/
def normText (t : Text) (dos : Bool) : Text :=
  if endsWith t (nlText dos) then t else t ++ nlText dos

theorem normText_ne_nil {t : Text} (ht : t ≠ []) (dos : Bool) : normText t dos ≠ [] := by
  unfold normText
  split
  · exact ht
  · exact fun h => ht (List.append_eq_nil_iff.mp h).1

theorem normText_ends (t : Text) (dos : Bool) : endsWith (normText t dos) (nlText dos) = true := by
  unfold normText
  split
  · assumption
  · exact endsWith_iff_suffix.mpr (List.suffix_append _ _)

theorem normText_idem (t : Text) (dos : Bool) : normText (normText t dos) dos = normText t dos := by
  show (if endsWith (normText t dos) (nlText dos) = true then _ else _) = _
  rw [if_pos (normText_ends t dos)]

/-- the line-ending kind of a text section: the `line_endings` argument when given, else the
kind detected on the first line of the text (`guess_line_endings`) -/
def textDos (le : Option Text) (t : Text) : Bool :=
  match le with
  | some l => l == Text.ofAscii b!"dos"
  | none => (guessText t).1

/-- **A faithful stateless codec.**  Laws about the codec named `e` in `env`, for *all* texts;
no reader or writer function is mentioned (`stripBom` is `pydiffx.utils.text.strip_bom`).
The side condition of `enc_append` (`u` does not begin with U+FEFF) is needed for CPython's
codecs: `strip_bom` removes a leading `EF BB BF` from UTF-8 data (resp. `FF FE` from
`utf-16-le` data) even though the encoder emitted it for a genuine U+FEFF. -/
structure CodecFaithful (env : Env) (cfg : Config) (e : Name) : Prop where
  dec_enc : ∀ t b, env.encode e t = .ok b → env.decode e b = .ok t
  enc_append : ∀ t u bt bu su, env.encode e t = .ok bt → env.encode e u = .ok bu →
    u.head? ≠ some 0xFEFF → stripBom env cfg bu (some e) = .ok su → env.encode e (t ++ u) = .ok (bt ++ su)
  enc_prefix : ∀ t u b, env.encode e (t ++ u) = .ok b → ∃ bt, env.encode e t = .ok bt

/-- **The encoded newlines of a codec**: what `TextLaws` asks of LF / CRLF encoded and stripped of
the byte-order mark (its fields `hne`, `hu`, `hsp`, `hdecNl`), for both kinds; `nl_suffix` is the
side condition of `CodecFaithful.encode_norm`. -/
structure CodecNewlines (env : Env) (cfg : Config) (e : Name) : Prop where
  nl_ok : ∀ dos, ∃ raw nl, env.encode e (nlText dos) = .ok raw ∧ stripBom env cfg raw (some e) = .ok nl ∧
    nl ≠ [] ∧ Unbordered nl ∧ (32 : UInt8) ∉ nl ∧ env.decode e nl = .ok (nlText dos)
  nl_suffix : ∀ t dos bt raw nl, env.encode e t = .ok bt → env.encode e (nlText dos) = .ok raw →
    stripBom env cfg raw (some e) = .ok nl → nl <:+ bt → nlText dos <:+ t

theorem nlText_head (dos : Bool) : (nlText dos).head? ≠ some 0xFEFF := by
  cases dos <;> decide

/-- the kind computed from the arguments, given what `PreparedWith` says -/
theorem textDos_of_prepared (le : Option Text) (t : Text) (leOut : Text) (dos : Bool) (h1 : leOut = leKind dos)
    (h5 : ∀ l, le = some l → l = leOut) (h6 : le = none → dos = (guessText t).1) : dos = textDos le t := by
  unfold textDos
  cases le with
  | none => exact h6 rfl
  | some l =>
    have hl : l = leKind dos := (h5 l rfl).trans h1
    show dos = (l == Text.ofAscii b!"dos")
    rw [hl, leKind_beq_dos]

theorem prepCore_str_inv {env : Env} {cfg : Config} {st : St} {t : Text} {le : Option Text}
    {enc : Option Name} {leOut : Text} {nl d : Bytes}
    (h : prepCore env cfg st (.str t) le enc true = .ok (leOut, nl, d)) :
    ∃ e raw, (if truthy enc then enc else st.curEncoding) = some e ∧ leOut = leKind (textDos le t) ∧
      (∀ l, le = some l → l = leOut) ∧ env.encode e (nlText (textDos le t)) = .ok raw ∧
      stripBom env cfg raw (some e) = .ok nl ∧ env.encode e t = .ok d := by
  obtain ⟨hw, hd⟩ := prepCore_ok h
  unfold PreparedWith at hw
  unfold PreparedData at hd
  dsimp only at hw hd
  rw [eff_inherit] at hw hd
  obtain ⟨dos, e1, e5, e6, e, raw, e2, e3, e4⟩ := hw
  obtain ⟨e', he', hde⟩ := hd
  rw [e2] at he' e4
  cases he'
  cases textDos_of_prepared le t leOut dos e1 e5 e6
  exact ⟨e, raw, e2, e1, e5, e3, e4, hde⟩

theorem prepareContent_str_inv {env : Env} {cfg : Config} {st : St} {t : Text} {le : Option Text}
    {enc : Option Name} {plain : Bytes} {leOut : Text}
    (h : prepareContent env cfg st (.str t) none le enc true = .ok (plain, leOut)) :
    ∃ e raw nl d, (if truthy enc then enc else st.curEncoding) = some e ∧ leOut = leKind (textDos le t) ∧
      (∀ l, le = some l → l = leOut) ∧ env.encode e (nlText (textDos le t)) = .ok raw ∧
      stripBom env cfg raw (some e) = .ok nl ∧ env.encode e t = .ok d ∧ plain = normBytes d nl := by
  obtain ⟨nl, d, h1, h2⟩ := prepareContent_ok_iff.mp h
  obtain ⟨e, raw, a1, a2, a3, a4, a5, a6⟩ := prepCore_str_inv h1
  rw [prepFinish_none] at h2
  exact ⟨e, raw, nl, d, a1, a2, a3, a4, a5, a6, (Except.ok.inj h2).symm⟩

theorem TextLaws.prepared {env : Env} {cfg : Config} {wst : St} {t : Text} {le : Option Text}
    {enc : Option Name} {leOut : Text} (laws : TextLaws env cfg wst t le enc leOut) :
    ∃ d, env.encode (Text.ofAscii laws.encName) t = .ok d ∧
      laws.plain = (if endsWith d laws.nl = true then d else d ++ laws.nl) ∧
      (∀ l, le = some l → l = leOut) ∧ (le = none → laws.dos = (guessText t).1) := by
  obtain ⟨e, raw, nl, d, he, hle, h5, hraw, hnl, hd, hp⟩ := prepareContent_str_inv laws.hplain
  have hdos : textDos le t = laws.dos := leKind_inj (hle.symm.trans laws.hle)
  cases he.symm.trans laws.heff
  rw [hdos] at hraw
  cases hraw.symm.trans laws.henc
  cases hnl.symm.trans laws.hbom
  refine ⟨d, hd, hp, h5, fun h => ?_⟩
  rw [← hdos, h]
  rfl

theorem TextLaws.dos_eq {env : Env} {cfg : Config} {wst : St} {t : Text} {le : Option Text}
    {enc : Option Name} {leOut : Text} (laws : TextLaws env cfg wst t le enc leOut) :
    laws.dos = textDos le t := by
  obtain ⟨_, _, _, h3, h4⟩ := laws.prepared
  exact textDos_of_prepared le t leOut laws.dos laws.hle h3 h4

section Codec
variable {env : Env} {cfg : Config} {e : Name}

theorem CodecFaithful.suffix_enc (F : CodecFaithful env cfg e) {t : Text} {dos : Bool} {d raw nl : Bytes}
    (hd : env.encode e t = .ok d) (hraw : env.encode e (nlText dos) = .ok raw)
    (hnl : stripBom env cfg raw (some e) = .ok nl) (hs : nlText dos <:+ t) : nl <:+ d := by
  obtain ⟨t', rfl⟩ := hs
  obtain ⟨bt', hbt'⟩ := F.enc_prefix t' (nlText dos) d hd
  have := F.enc_append t' (nlText dos) bt' raw nl hbt' hraw (nlText_head _) hnl
  rw [hd] at this
  rw [EnvR.ok.inj this]
  exact List.suffix_append _ _

theorem CodecFaithful.encode_norm (F : CodecFaithful env cfg e) {t : Text} {dos : Bool} {d raw nl : Bytes}
    (hd : env.encode e t = .ok d) (hraw : env.encode e (nlText dos) = .ok raw)
    (hnl : stripBom env cfg raw (some e) = .ok nl) (hsuf : nl <:+ d → nlText dos <:+ t) :
    env.encode e (normText t dos) = .ok (normBytes d nl) := by
  unfold normBytes normText
  by_cases hends : endsWith d nl = true
  · rw [if_pos hends, if_pos (endsWith_iff_suffix.mpr (hsuf (endsWith_iff_suffix.mp hends)))]
    exact hd
  · have hnot : ¬ endsWith t (nlText dos) = true :=
      fun hs => hends (endsWith_iff_suffix.mpr (F.suffix_enc hd hraw hnl (endsWith_iff_suffix.mp hs)))
    rw [if_neg hends, if_neg hnot]
    exact F.enc_append t _ d raw nl hd hraw (nlText_head _) hnl

end Codec

/-- **The text read back is the text written**, the final line ending appended when missing. -/
theorem text_decoded_eq {env : Env} {cfg : Config} {wst : St} {t : Text} {le : Option Text}
    {enc : Option Name} {leOut : Text} (laws : TextLaws env cfg wst t le enc leOut)
    (F : CodecFaithful env cfg (Text.ofAscii laws.encName)) :
    laws.decoded = normText t (textDos le t) := by
  obtain ⟨d, hd, hplain, -, -⟩ := laws.prepared
  rw [← laws.dos_eq]
  have hdec := laws.hdec
  rw [hplain] at hdec
  have key := F.dec_enc _ _ (F.encode_norm hd laws.henc laws.hbom fun hs => by
    -- nothing was appended, so the decoded text is `t`, which `hendT` says ends with the newline
    rw [if_pos (endsWith_iff_suffix.mpr hs), F.dec_enc t d hd] at hdec
    have h := endsWith_iff_suffix.mp laws.hendT
    rw [← EnvR.ok.inj hdec] at h
    exact h)
  exact EnvR.ok.inj (hdec.symm.trans key)

/-- the value of an answer of the environment, `d` when it raised -/
def okVal {α} (d : α) : EnvR α → α
  | .ok a => a
  | _ => d

theorem okVal_ok {α} {d : α} {r : EnvR α} {a : α} (h : r = .ok a) : r = .ok (okVal d r) := by
  rw [h]; rfl

/-- `'\n'.encode(e)` / `'\r\n'.encode(e)` -/
def nlRaw (env : Env) (e : Name) (dos : Bool) : Bytes := okVal [] (env.encode e (nlText dos))
/-- … without the byte-order mark -/
def nlBytes (env : Env) (cfg : Config) (e : Name) (dos : Bool) : Bytes :=
  okVal [] (stripBom env cfg (nlRaw env e dos) (some e))

theorem CodecNewlines.facts {env : Env} {cfg : Config} {e : Name} (N : CodecNewlines env cfg e) (dos : Bool) :
    env.encode e (nlText dos) = .ok (nlRaw env e dos) ∧
    stripBom env cfg (nlRaw env e dos) (some e) = .ok (nlBytes env cfg e dos) ∧
    nlBytes env cfg e dos ≠ [] ∧ Unbordered (nlBytes env cfg e dos) ∧ (32 : UInt8) ∉ nlBytes env cfg e dos ∧
    env.decode e (nlBytes env cfg e dos) = .ok (nlText dos) := by
  obtain ⟨raw, nl, a1, a2, a3⟩ := N.nl_ok dos
  have h1 : env.encode e (nlText dos) = .ok (nlRaw env e dos) := okVal_ok a1
  have hr : nlRaw env e dos = raw := by rw [a1] at h1; exact (EnvR.ok.inj h1).symm
  have h2 : stripBom env cfg (nlRaw env e dos) (some e) = .ok (nlBytes env cfg e dos) :=
    okVal_ok (by rw [hr]; exact a2)
  have hn : nlBytes env cfg e dos = nl := by
    rw [hr, a2] at h2; exact (EnvR.ok.inj h2).symm
  rw [hn]
  exact ⟨h1, by rw [hr]; exact a2, a3⟩

theorem ofFaithful_facts (env : Env) (cfg : Config) (wst : St) (t : Text) (le : Option Text)
    (enc : Option Name) (leOut : Text) (e : Name)
    (heff : (if truthy enc then enc else wst.curEncoding) = some e)
    (F : CodecFaithful env cfg e) (N : CodecNewlines env cfg e)
    (plain : Bytes) (hplain : prepareContent env cfg wst (.str t) none le enc true = .ok (plain, leOut)) :
    leOut = leKind (textDos le t) ∧
    (∃ d, env.encode e t = .ok d ∧ plain = normBytes d (nlBytes env cfg e (textDos le t))) ∧
    env.decode e plain = .ok (normText t (textDos le t)) ∧
    endsWith (normText t (textDos le t)) (nlText (textDos le t)) = true := by
  obtain ⟨e', raw, nl, d, he, hle, -, hraw, hnl, hd, rfl⟩ := prepareContent_str_inv hplain
  cases he.symm.trans heff
  obtain ⟨hraw', hnl', -⟩ := N.facts (textDos le t)
  cases hraw.symm.trans hraw'
  cases hnl.symm.trans hnl'
  exact ⟨hle, ⟨d, hd, rfl⟩, F.dec_enc _ _ (F.encode_norm hd hraw hnl (N.nl_suffix t _ d _ _ hd hraw hnl)),
    normText_ends _ _⟩

/-- **`TextLaws` from the codec laws.**  The data fields are computed from the environment (`okVal`),
not chosen from the existentials of `CodecNewlines.nl_ok`, so that `decoded` and `encName` reduce
by `rfl`. -/
def TextLaws.ofFaithful (env : Env) (cfg : Config) (wst : St) (t : Text) (le : Option Text)
    (enc : Option Name) (leOut : Text) (encName : Bytes)
    (heff : (if truthy enc then enc else wst.curEncoding) = some (Text.ofAscii encName))
    (F : CodecFaithful env cfg (Text.ofAscii encName)) (N : CodecNewlines env cfg (Text.ofAscii encName))
    (plain : Bytes) (hplain : prepareContent env cfg wst (.str t) none le enc true = .ok (plain, leOut)) :
    TextLaws env cfg wst t le enc leOut where
  encName := encName
  heff := heff
  dos := textDos le t
  hle := (ofFaithful_facts env cfg wst t le enc leOut _ heff F N plain hplain).1
  raw := nlRaw env (Text.ofAscii encName) (textDos le t)
  henc := (N.facts _).1
  nl := nlBytes env cfg (Text.ofAscii encName) (textDos le t)
  hbom := (N.facts _).2.1
  hne := (N.facts _).2.2.1
  hu := (N.facts _).2.2.2.1
  hsp := (N.facts _).2.2.2.2.1
  plain := plain
  hplain := hplain
  decoded := normText t (textDos le t)
  hdec := (ofFaithful_facts env cfg wst t le enc leOut _ heff F N plain hplain).2.2.1
  hdecNl := (N.facts _).2.2.2.2.2
  hendT := (ofFaithful_facts env cfg wst t le enc leOut _ heff F N plain hplain).2.2.2

theorem TextLaws.ofFaithful_decoded (env : Env) (cfg : Config) (wst : St) (t : Text) (le : Option Text)
    (enc : Option Name) (leOut : Text) (encName : Bytes) heff F N plain hplain :
    (TextLaws.ofFaithful env cfg wst t le enc leOut encName heff F N plain hplain).decoded =
      normText t (textDos le t) := rfl

theorem TextLaws.ofFaithful_encName (env : Env) (cfg : Config) (wst : St) (t : Text) (le : Option Text)
    (enc : Option Name) (leOut : Text) (encName : Bytes) heff F N plain hplain :
    (TextLaws.ofFaithful env cfg wst t le enc leOut encName heff F N plain hplain).encName = encName := rfl

theorem prepCore_str_ok {env : Env} {cfg : Config} {st : St} {t : Text} (ht : t ≠ [])
    {le : Option Text} (hle : ∀ l, le = some l → ∃ dos, l = leKind dos)
    {enc : Option Name} {e : Name} (heff : (if truthy enc then enc else st.curEncoding) = some e)
    {d raw nl : Bytes} (hd : env.encode e t = .ok d)
    (hraw : env.encode e (nlText (textDos le t)) = .ok raw)
    (hnl : stripBom env cfg raw (some e) = .ok nl) :
    prepCore env cfg st (.str t) le enc true = .ok (leKind (textDos le t), nl, d) := by
  obtain ⟨a, t', rfl⟩ := List.exists_cons_of_ne_nil ht
  have heff' : effEncoding st enc true = some e := by rw [effEncoding, eff_inherit, heff]
  rw [prepCore, heff']
  cases le with
  | none =>
    simp only [textDos] at hraw hnl ⊢
    rw [← guessText_snd] at hraw
    simp only [checkContent, checkLe, pick, encodeWith, liftEnv, hraw, hd, hnl, bind, Except.bind, pure, Except.pure]
    rfl
  | some l =>
    obtain ⟨dos, rfl⟩ := hle l rfl
    simp only [textDos, leKind_beq_dos] at hraw hnl ⊢
    simp only [checkContent, checkLe, pick, encodeWith, leKind_ne, Bool.false_eq_true, if_false, leKind_beq_dos, liftEnv,
      hraw, hd, hnl, bind, Except.bind, pure, Except.pure]

theorem prepareContent_str_eq {env : Env} {cfg : Config} {st : St} {t : Text} (ht : t ≠ [])
    {le : Option Text} (hle : ∀ l, le = some l → ∃ dos, l = leKind dos)
    {enc : Option Name} {e : Name} (heff : (if truthy enc then enc else st.curEncoding) = some e)
    {d raw nl : Bytes} (hd : env.encode e t = .ok d)
    (hraw : env.encode e (nlText (textDos le t)) = .ok raw)
    (hnl : stripBom env cfg raw (some e) = .ok nl) (indent : Option Int) :
    prepareContent env cfg st (.str t) indent le enc true =
      (prepFinish indent nl d >>= fun data => pure (data, leKind (textDos le t))) := by
  rw [prepareContent_eq, prepCore_str_ok ht hle heff hd hraw hnl]
  rfl

theorem prepFinish_total {nl : Bytes} (hne : nl ≠ []) (indent : Option Int) (d : Bytes) :
    ∃ data, prepFinish indent nl d = .ok data := by
  have hemp : nl.isEmpty = false := by simpa using hne
  cases indent with
  | none => exact ⟨_, rfl⟩
  | some n =>
    by_cases hz : n = 0
    · exact ⟨normBytes d nl, by simp only [prepFinish, hz, if_true]; rfl⟩
    · exact ⟨_, by simp only [prepFinish, hz, if_false, hemp, Bool.false_eq_true]; rfl⟩

end Diffx

namespace Diffx.RunRT
open Diffx Diffx.Writer

/-- **the content a reader must return for a call, from the call's arguments**: the text with its
final line ending (declared, or detected on the first line) appended when missing; the metadata
value; the diff bytes with the section's newline appended when missing.  For a diff the newline
is that of the laws, `L.dl.nl`: the BOM-free encoding of LF / CRLF under `encoding or 'ascii'`
(`DiffLaws.hencR`, `hbomR`). -/
def writtenContent (env : Env) (cfg : Config) (st : St) (c : Call) (L : CallLaws env cfg st c) :
    Reader.Content :=
  match c, L with
  | .newChange _, _ => .container
  | .newFile _, _ => .container
  | .preamble (.str t) _ _ le _, _ => .text (normText t (textDos le t))
  | .metadata (.dict j) _ _, _ => .metadata j
  | .diff (.bytes b) _ _ _, L => .diff (normBytes b L.dl.nl)
  | _, _ => (default : Reader.Record).content

/-- the codec / JSON laws that make one call's content come back: the effective encoding of a
preamble or metadata call is a faithful codec, and `json.loads` of the dumped metadata (final
newline appended) is the metadata -/
def CallFaithful (env : Env) (cfg : Config) (st : St) (c : Call) (L : CallLaws env cfg st c) : Prop :=
  match c, L with
  | .preamble (.str _) _ _ _ _, L => CodecFaithful env cfg (Text.ofAscii L.text.encName)
  | .metadata (.dict j) _ _, L =>
    CodecFaithful env cfg (Text.ofAscii L.tl.encName) ∧
      env.loadsText (normText L.text (guessText L.text).1) = .ok j
  | _, _ => True

/-- `CallFaithful` of every call, each with its laws in the state it is made in -/
def ProgramFaithfulFrom (env : Env) (cfg : Config) : (st : St) → (cs : List Call) →
    ProgramLawsFrom env cfg st cs → Prop
  | _, [], _ => True
  | st, c :: cs, (L, Ls) => CallFaithful env cfg st c L ∧ ProgramFaithfulFrom env cfg (step env cfg st c).1 cs Ls

/-- `writtenContent` of every call, in order -/
def writtenFrom (env : Env) (cfg : Config) : (st : St) → (cs : List Call) →
    ProgramLawsFrom env cfg st cs → List Reader.Content
  | _, [], _ => []
  | st, c :: cs, (L, Ls) => writtenContent env cfg st c L :: writtenFrom env cfg (step env cfg st c).1 cs Ls

theorem expected_content_eq {env : Env} {cfg : Config} {st : St} (line : Nat) {c : Call}
    {L : CallLaws env cfg st c} (F : CallFaithful env cfg st c L) :
    (expectedOne env cfg st line c L).1.content = writtenContent env cfg st c L := by
  cases c with
  | newChange enc => rfl
  | newFile enc => rfl
  | preamble text enc indent le mime =>
    cases text with
    | str t =>
      show Reader.Content.text (TextLaws.decoded (PreambleLaws.text L)) = .text (normText t (textDos le t))
      rw [text_decoded_eq (PreambleLaws.text L) F]
    | bytes _ => rfl
    | dict _ => rfl
    | other => rfl
  | metadata m enc fmt =>
    cases m with
    | dict j =>
      obtain ⟨F1, F2⟩ := F
      show Reader.Content.metadata (MetaLaws.parsed L) = .metadata j
      have h1 := text_decoded_eq (MetaLaws.tl L) F1
      have h3 := MetaLaws.hloads L
      rw [h1] at h3
      rw [← EnvR.ok.inj (F2.symm.trans h3)]
    | str _ => rfl
    | bytes _ => rfl
    | other => rfl
  | diff content dtype enc le =>
    cases content with
    | bytes b =>
      exact congrArg Reader.Content.diff
        (diff_prepared_eq (DiffCallLaws.hprep L) (DiffCallLaws.dl L))
    | str _ => rfl
    | dict _ => rfl
    | other => rfl

theorem expectedFrom_content (env : Env) (cfg : Config) :
    ∀ (cs : List Call) (st : St) (line : Nat) (Ls : ProgramLawsFrom env cfg st cs),
      ProgramFaithfulFrom env cfg st cs Ls →
      (expectedFrom env cfg st line cs Ls).map (·.content) = writtenFrom env cfg st cs Ls := by
  intro cs
  induction cs with
  | nil => intro st line Ls _; rfl
  | cons c cs ih =>
    intro st line Ls F
    obtain ⟨L, Ls'⟩ := Ls
    obtain ⟨F1, F2⟩ := F
    simp only [expectedFrom, writtenFrom, List.map_cons]
    rw [expected_content_eq line F1, ih _ _ Ls' F2]

theorem expectedRecords_content (env : Env) (cfg : Config) (enc : Name) (calls : List Call)
    (laws : ProgramLaws env cfg enc calls)
    (F : ProgramFaithfulFrom env cfg (init (some enc) (Text.ofAscii b!"1.0")).1 calls laws.calls) :
    (expectedRecords env cfg enc calls laws).map (·.content) =
      .container :: writtenFrom env cfg (init (some enc) (Text.ofAscii b!"1.0")).1 calls laws.calls := by
  unfold expectedRecords
  rw [List.map_cons, expectedFrom_content env cfg calls _ 1 laws.calls F]

end Diffx.RunRT
