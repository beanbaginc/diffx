import DiffxVerif.Spec.HunkSpec
/-!
# Lemmas about the hunk parser model (`Model/Hunks.lean`) for property C14

`run` folds `step` over a list of lines; `loopP` is `loop` with the line seen last as an argument in place of
the look-ahead for a premature end (`loop_eq`), so that `parse_of_run` moves a fact about `run` on a prefix to the
parser without a side condition.  Every statement about a rendered input is then: compute `run` on the prefix in
closed form (`run_closed` for complete hunks and tolerated garbage, `run_before` up to the inside of an open hunk;
`stAfter hs d i s bl` is the state after the header of `s` and the body lines `bl`), then look at what `loopP` does
with what follows.  The two statements about arbitrary input (`loopP_located`, `loopP_inv`) are inductions over
`loopP` of their own.
-/
namespace Diffx.HunkSpec

instance (d : Bytes) : Decidable (digitsOk d) := by unfold digitsOk; infer_instance

variable {s : Spec}

theorem Spec.WF.counts (h : s.WF) :
    countVal s.on = (origLines s.body).length ∧ countVal s.mn = (modLines s.body).length :=
  ⟨h.2.2.2.2.1, h.2.2.2.2.2.1⟩

theorem Spec.WF.markers (h : s.WF) : ∀ raw, BLine.marker raw ∈ s.body → markerOk raw :=
  h.2.2.2.2.2.2.2.1

theorem Spec.WF.last (h : s.WF) : ∀ l, s.body.getLast? = some l → l.isMarker = false :=
  h.2.2.2.2.2.2.2.2

end Diffx.HunkSpec

namespace Diffx.C14
open Diffx Diffx.HunkSpec

/-- the lines of a diff made of hunks, each preceded by non-hunk lines -/
def renderAll (segs : List (List Bytes × Spec)) : List Bytes :=
  segs.flatMap (fun sg => sg.1 ++ sg.2.render)

def totalDeletes (segs : List (List Bytes × Spec)) : Nat := (segs.map (·.2.deletes)).sum
def totalInserts (segs : List (List Bytes × Spec)) : Nat := (segs.map (·.2.inserts)).sum

end Diffx.C14

namespace Diffx.Hunks
open Diffx Diffx.HunkSpec

/-- `loop` without its line counter and its look-ahead for a premature end: `step` folded over the lines, `none` as
soon as a step stops or raises -/
def run (ig : Bool) : St → List Bytes → Option St
  | st, [] => some st
  | st, l :: r => match step ig st l with
    | .cont st' => run ig st' r
    | _ => none

theorem run_append (ig : Bool) (st : St) (a b : List Bytes) :
    run ig st (a ++ b) = (run ig st a).bind (fun st' => run ig st' b) := by
  induction a generalizing st with
  | nil => simp [run]
  | cons l r ih =>
    simp only [List.cons_append, run]
    cases step ig st l <;> simp [ih]

theorem run_cons_some {ig : Bool} {st st' : St} {l : Bytes} {r : List Bytes}
    (h : run ig st (l :: r) = some st') : ∃ st₁, step ig st l = .cont st₁ ∧ run ig st₁ r = some st' := by
  rw [run] at h
  split at h
  · exact ⟨_, ‹_›, h⟩
  · cases h

/-- `loop` with the line seen last as an argument in place of the look-ahead for a premature end -/
def loopP (ig : Bool) : St → Nat → Bytes → List Bytes → Outcome
  | st, n, prev, [] =>
    match st.cur with
    | some _ => .malformed n prev .prematureEnd
    | none => .ok ⟨st.hunks, n, st.deletes, st.inserts⟩
  | st, n, _, line :: rest =>
    match step ig st line with
    | .raise => .malformed (n + 1) line .malformed
    | .stop => .ok ⟨st.hunks, n, st.deletes, st.inserts⟩
    | .cont st' => loopP ig st' (n + 1) line rest

theorem loop_eq (ig : Bool) (st : St) (n : Nat) (lines : List Bytes) :
    loop ig st n lines = loopP ig st n [] lines := by
  induction lines generalizing st n with
  | nil => rfl
  | cons line rest ih =>
    simp only [loop, loopP]
    cases step ig st line with
    | raise | stop => rfl
    | cont st' =>
      cases rest with
      | nil => simp only [loop, loopP]; cases st'.cur <;> rfl
      | cons l r => exact ih st' (n + 1)

theorem loopP_of_run {ig : Bool} {st st' : St} {n : Nat} {pre : List Bytes} (prev : Bytes) (suf : List Bytes)
    (h : run ig st pre = some st') :
    loopP ig st n prev (pre ++ suf) = loopP ig st' (n + pre.length) (pre.getLast?.getD prev) suf := by
  induction pre generalizing st n prev with
  | nil =>
    cases h
    rfl
  | cons l r ih =>
    obtain ⟨st₁, hs, h⟩ := run_cons_some h
    simp only [List.cons_append, loopP, hs]
    rw [ih l h, List.getLast?_cons, Option.getD_some, List.length_cons, Nat.add_right_comm, Nat.add_assoc]

theorem parse_of_run {ig : Bool} {st : St} {pre : List Bytes} (suf : List Bytes)
    (h : run ig St.init pre = some st) :
    parse (pre ++ suf) ig = loopP ig st pre.length (pre.getLast?.getD []) suf := by
  rw [parse, loop_eq, loopP_of_run [] suf h, Nat.zero_add]

theorem takeDigits_nondigit (r : Bytes) (hr : ∀ b, r.head? = some b → isDigit b = false) :
    takeDigits r = ([], r) := by
  cases r with
  | nil => rfl
  | cons b r => simp [takeDigits, hr b rfl]

theorem takeDigits_append (d r : Bytes) (hd : ∀ b ∈ d, isDigit b = true)
    (hr : ∀ b, r.head? = some b → isDigit b = false) :
    takeDigits (d ++ r) = (d, r) := by
  induction d with
  | nil => exact takeDigits_nondigit r hr
  | cons b d ih =>
    have hb := hd b (by simp)
    have := ih (fun x hx => hd x (by simp [hx]))
    simp [takeDigits, hb, this]

theorem range_rangeBytes {os : Bytes} {on : Option Bytes} {rest : Bytes}
    (hos : digitsOk os) (hon : ∀ d, on = some d → digitsOk d) :
    range (rangeBytes os on ++ 32 :: rest) = some (os, on, 32 :: rest) := by
  obtain ⟨hne, hdig, _⟩ := hos
  -- `range` matches on the digits it took being non-empty
  obtain ⟨b, os, rfl⟩ := List.exists_cons_of_ne_nil hne
  cases on with
  | none =>
    have h := takeDigits_append (b :: os) (32 :: rest) hdig (by simp [isDigit])
    simp only [rangeBytes, List.append_nil, range, h]
    rfl
  | some d =>
    obtain ⟨hne2, hdig2, _⟩ := hon d rfl
    obtain ⟨c, d, rfl⟩ := List.exists_cons_of_ne_nil hne2
    have h := takeDigits_append (b :: os) (44 :: (c :: d ++ 32 :: rest)) hdig (by simp [isDigit])
    have h2 := takeDigits_append (c :: d) (32 :: rest) hdig2 (by simp [isDigit])
    simp only [rangeBytes, List.append_assoc, List.cons_append, range] at h h2 ⊢
    simp only [h, h2]

theorem dropPrefix?_append (p s : Bytes) : dropPrefix? p (p ++ s) = some s := by
  simp [dropPrefix?]

/-- the header regular expression on a header written from its groups -/
theorem matchHeader_mk (os : Bytes) (on : Option Bytes) (ms : Bytes) (mn ctx : Option Bytes)
    (hos : digitsOk os) (hon : ∀ d, on = some d → digitsOk d)
    (hms : digitsOk ms) (hmn : ∀ d, mn = some d → digitsOk d) (hctx : ∀ c, ctx = some c → (10 : UInt8) ∉ c) :
    matchHeader ([64, 64, 32, 45] ++ (rangeBytes os on ++ 32 :: ([43] ++ (rangeBytes ms mn ++ 32 :: ([64, 64] ++
      (match ctx with | none => [] | some c => 32 :: c)))))) = some ⟨os, on, ms, mn, ctx⟩ := by
  have p2 (t : Bytes) : dropPrefix? [32, 43] (32 :: ([43] ++ t)) = some t := dropPrefix?_append [32, 43] t
  have p3 (t : Bytes) : dropPrefix? [32, 64, 64] (32 :: ([64, 64] ++ t)) = some t :=
    dropPrefix?_append [32, 64, 64] t
  simp only [matchHeader, dropPrefix?_append, Option.bind_eq_bind, Option.bind_some,
    range_rangeBytes hos hon, p2, range_rangeBytes hms hmn, p3]
  cases ctx with
  | none => rfl
  | some c =>
    have := List.takeWhile_append_of_pos (p := (· ≠ 10)) (l₁ := c) (l₂ := [])
      fun b hb => by simpa using fun e : b = 10 => hctx c rfl (e ▸ hb)
    simp only [List.append_nil, List.takeWhile_nil] at this
    simp only [this]

theorem matchHeader_header {s : Spec} (hw : s.WF) :
    matchHeader s.header = some ⟨s.os, s.on, s.ms, s.mn, s.context⟩ := by
  obtain ⟨hos, hms, hon, hmn, _, _, hctx, _⟩ := hw
  rw [← matchHeader_mk s.os s.on s.ms s.mn s.context hos hon hms hmn hctx]
  simp only [Spec.header, List.append_assoc, List.cons_append, List.nil_append]
  cases s.context <;> rfl

theorem origLines_append (a b : List BLine) : origLines (a ++ b) = origLines a ++ origLines b := by
  induction a with
  | nil => rfl
  | cons x a ih => cases x <;> simp [origLines, ih]

theorem modLines_append (a b : List BLine) : modLines (a ++ b) = modLines a ++ modLines b := by
  induction a with
  | nil => rfl
  | cons x a ih => cases x <;> simp [modLines, ih]

theorem firstTrue_snoc (l : List Bool) (b : Bool) :
    firstTrue (l ++ [b]) = match firstTrue l with
      | some i => some i
      | none => if b then some l.length else none := by
  induction l with
  | nil => cases b <;> rfl
  | cons a l ih =>
    cases a
    · simp only [List.cons_append, firstTrue, ih]
      cases firstTrue l <;> cases b <;> simp
    · rfl

theorem lastTrue_snoc (l : List Bool) (b : Bool) :
    lastTrue (l ++ [b]) = if b then some l.length else lastTrue l := by
  induction l with
  | nil => cases b <;> rfl
  | cons a l ih =>
    simp only [List.cons_append, lastTrue, ih]
    cases b <;> simp

/-- one side of an open hunk whose header declares `num` lines after line `start`, when the lines `l` of that side
have been read (`true`: a deleted / inserted line, `false`: a context line; `origLines`, `modLines` of the body):
`first`, `last` are `start` plus the index in `l` of the first / last changed line, `changed` counts them.  With `num` the
length of `l` this is the specification's `sideOf`. -/
def mkSide (start : Int) (num : Nat) (l : List Bool) : Side :=
  { first := (firstTrue l).map (fun (i : Nat) => start + (i : Int))
    last := (lastTrue l).map (fun (i : Nat) => start + (i : Int))
    numLines := num
    changed := (l.filter id).length
    start := start }

/-- the open hunk after the header of `s` and the body lines `bl` -/
def curAfter (s : Spec) (bl : List BLine) : Cur :=
  ⟨s.context, mkSide ((digitsVal s.os : Int) - 1) (countVal s.on) (origLines bl),
    mkSide ((digitsVal s.ms : Int) - 1) (countVal s.mn) (modLines bl),
    (origLines bl).length, (modLines bl).length⟩

def stAfter (hs : List Hunk) (d i : Nat) (s : Spec) (bl : List BLine) : St :=
  ⟨hs, some (curAfter s bl), d + ((origLines bl).filter id).length,
    i + ((modLines bl).filter id).length⟩

theorem mkSide_bump_true (start : Int) (num : Nat) (l : List Bool) :
    (mkSide start num l).bump l.length = mkSide start num (l ++ [true]) := by
  simp only [mkSide, Side.bump, firstTrue_snoc, lastTrue_snoc, List.filter_append]
  cases firstTrue l <;> simp

theorem mkSide_false (start : Int) (num : Nat) (l : List Bool) :
    mkSide start num (l ++ [false]) = mkSide start num l := by
  simp only [mkSide, firstTrue_snoc, lastTrue_snoc, List.filter_append]
  cases firstTrue l <;> simp

theorem header_startsWith (s : Spec) : startsWith s.header [64, 64] = true := by
  simp [Spec.header, startsWith]

theorem convHdr_spec {s : Spec} (hw : s.WF) :
    convHdr ⟨s.os, s.on, s.ms, s.mn, s.context⟩ =
      some (mkSide ((digitsVal s.os : Int) - 1) (countVal s.on) [],
            mkSide ((digitsVal s.ms : Int) - 1) (countVal s.mn) [], s.context) := by
  obtain ⟨hos, hms, hon, hmn, _⟩ := hw
  obtain ⟨os, on, ms, mn, ctx, body⟩ := s
  have h1 := hos.2.2
  have h2 := hms.2.2
  have h3 : ∀ d, on = some d → d.length ≤ maxIntDigits := fun d h => (hon d h).2.2
  have h4 : ∀ d, mn = some d → d.length ≤ maxIntDigits := fun d h => (hmn d h).2.2
  simp only at h1 h2
  cases on <;> cases mn <;> simp [convHdr, h1, h2, h3, h4, mkSide, firstTrue, lastTrue, countVal]

theorem step_header (ig : Bool) (hs : List Hunk) (d i : Nat) (s : Spec) (hw : s.WF) :
    step ig ⟨hs, none, d, i⟩ s.header = .cont (complete (stAfter hs d i s [])) := by
  simp only [step, header_startsWith, matchHeader_header hw, convHdr_spec hw, if_true]
  rfl

theorem marker_head {raw : Bytes} (h : pyStrip raw = marker) : ∃ b r, raw = b :: r ∧ b ≠ 64 := by
  cases raw with
  | nil => exact absurd h (by decide)
  | cons b r =>
    refine ⟨b, r, rfl, ?_⟩
    -- the first byte is white space or the `\` of the marker
    cases hb : isWs b with
    | true =>
      rintro rfl
      exact absurd hb (by decide)
    | false =>
      -- `strip` keeps a prefix of what is left after the leading white space, here all of `b :: r`
      have hp : marker <+: b :: r := by
        rw [← h, pyStrip, show (b :: r).dropWhile isWs = b :: r by simp [List.dropWhile, hb]]
        simpa using List.reverse_prefix.2 (List.dropWhile_suffix isWs (l := (b :: r).reverse))
      obtain ⟨t, ht⟩ := hp
      cases ht
      decide

theorem marker_not_at (raw : Bytes) (h : pyStrip raw = marker) : startsWith raw [64, 64] = false := by
  obtain ⟨b, r, rfl, hb⟩ := marker_head h
  simp [startsWith, List.isPrefixOf, Ne.symm hb]

theorem step_body (ig : Bool) (hs : List Hunk) (d i : Nat) (s : Spec) (bl : List BLine) (x : BLine)
    (hx : ∀ raw, x = .marker raw → markerOk raw) :
    step ig (stAfter hs d i s bl) x.render = .cont (complete (stAfter hs d i s (bl ++ [x]))) := by
  cases x with
  | ctx p | del p | ins p =>
    -- the first byte of the rendered line selects the arm of `step`; what the arm does to the two
    -- sides is `mkSide_bump_true` (the line counts there) or `mkSide_false` (it does not)
    simp [step, stAfter, curAfter, BLine.render, startsWith, origLines_append, modLines_append,
      origLines, modLines, mkSide_false, mkSide_bump_true, Nat.add_assoc]
  | marker raw =>
    obtain ⟨h1, h2⟩ := hx raw rfl
    obtain ⟨b, r, rfl, n0⟩ := marker_head h1
    obtain ⟨n1, n2, n3⟩ := h2 b rfl
    simp [step, BLine.render, h1, startsWith, Ne.symm n0, Ne.symm n1, Ne.symm n2, Ne.symm n3, stAfter, curAfter,
      origLines_append, modLines_append, origLines, modLines]

/-- the hunk is still open after the body lines `bl`
(`OpenAfter s k` is `k ≤ s.body.length ∧ isOpen s (s.body.take k)`) -/
def isOpen (s : Spec) (bl : List BLine) : Prop :=
  (origLines bl).length < countVal s.on ∨ (modLines bl).length < countVal s.mn

theorem complete_open {hs : List Hunk} {d i : Nat} {s : Spec} {bl : List BLine} (h : isOpen s bl) :
    complete (stAfter hs d i s bl) = stAfter hs d i s bl := by
  unfold isOpen at h
  simp only [complete, stAfter, curAfter, mkSide]
  rw [if_neg]
  simp only [ge_iff_le, Bool.and_eq_true, decide_eq_true_eq]
  omega

theorem complete_closed {hs : List Hunk} {d i : Nat} {s : Spec} {bl : List BLine} (h : ¬ isOpen s bl) :
    complete (stAfter hs d i s bl) =
      ⟨hs ++ [finish (curAfter s bl)], none, d + ((origLines bl).filter id).length,
        i + ((modLines bl).filter id).length⟩ := by
  unfold isOpen at h
  simp only [complete, stAfter]
  rw [if_pos]
  simp only [curAfter, mkSide, ge_iff_le, Bool.and_eq_true, decide_eq_true_eq]
  omega

theorem run_hunk (ig : Bool) (hs : List Hunk) (d i : Nat) (s : Spec) (hw : s.WF) (k : Nat)
    (hk : k ≤ s.body.length) (hopen : ∀ j < k, isOpen s (s.body.take j)) :
    run ig ⟨hs, none, d, i⟩ (s.header :: (s.body.take k).map BLine.render) =
      some (complete (stAfter hs d i s (s.body.take k))) := by
  induction k with
  | zero => simp [run, step_header ig hs d i s hw]
  | succ k ih =>
    have hk' : k < s.body.length := by omega
    have e : s.body.take (k + 1) = s.body.take k ++ [s.body[k]] := by
      rw [List.take_add_one]; simp [hk']
    rw [e, List.map_append, ← List.cons_append, run_append,
      ih (by omega) (fun j hj => hopen j (by omega)), complete_open (hopen k (by omega))]
    have hm : ∀ raw, s.body[k] = .marker raw → markerOk raw := by
      intro raw hr
      exact hw.markers raw (hr ▸ List.getElem_mem hk')
    simp [run, step_body ig hs d i s _ _ hm]

theorem isOpen_take_mono {s : Spec} {l : List BLine} {j k : Nat} (hjk : j ≤ k)
    (h : isOpen s (l.take k)) : isOpen s (l.take j) := by
  have e : l.take k = l.take j ++ (l.take k).drop j := by
    have := List.take_append_drop j (l.take k)
    rw [List.take_take, Nat.min_eq_left hjk] at this
    exact this.symm
  unfold isOpen at h ⊢
  rw [e, origLines_append, modLines_append, List.length_append, List.length_append] at h
  omega

/-- the last body line counts on one side, so the hunk is open at every proper prefix -/
theorem wf_open {s : Spec} (hw : s.WF) {j : Nat} (hj : j < s.body.length) : isOpen s (s.body.take j) := by
  obtain ⟨ho, hm⟩ := hw.counts
  have hne : s.body ≠ [] := fun e => by simp [e] at hj
  have hlast := hw.last _ (List.getLast?_eq_some_getLast hne)
  have e := List.dropLast_concat_getLast hne
  have eo := congrArg (fun l => (origLines l).length) e
  have em := congrArg (fun l => (modLines l).length) e
  simp only [origLines_append, modLines_append, List.length_append] at eo em
  refine isOpen_take_mono (k := s.body.length - 1) (by omega) ?_
  rw [← List.dropLast_eq_take, isOpen, ho, hm]
  cases hx : s.body.getLast hne with
  | marker raw => simp [hx, BLine.isMarker] at hlast
  | ctx p | del p | ins p =>
    simp only [hx, origLines, modLines, List.length_cons, List.length_nil] at eo em
    omega

theorem wf_closed {s : Spec} (hw : s.WF) : ¬ isOpen s s.body := by
  obtain ⟨ho, hm⟩ := hw.counts
  unfold isOpen
  omega

theorem listMin_pair (a b : Int) : listMin [a, b] = min a b := rfl

/-- `finish` without the lists: leading / trailing context is the smaller of the two sides' -/
theorem finish_eq (c : Cur) : finish c =
    { context := c.context, orig := c.orig, modified := c.modified
      pre := minOpt (c.orig.first.map (· - c.orig.start)) (c.modified.first.map (· - c.modified.start))
      post := minOpt (c.orig.last.map fun l => (c.orig.numLines : Int) - (l - c.orig.start + 1))
        (c.modified.last.map fun l => (c.modified.numLines : Int) - (l - c.modified.start + 1)) } := by
  obtain ⟨_, ⟨f₁, l₁, _, _, _⟩, ⟨f₂, l₂, _, _, _⟩, _, _⟩ := c
  cases f₁ <;> cases f₂ <;> cases l₁ <;> cases l₂ <;> rfl

theorem finish_curAfter {s : Spec} (hw : s.WF) : finish (curAfter s s.body) = s.expected := by
  -- the declared counts are the lengths of the two sides (`hw.counts`), so the sides are `sideOf`; in `pre` and `post`
  -- the start of the side cancels (`e`)
  obtain ⟨ho, hm⟩ := hw.counts
  have e (a b : Int) : a + b - a = b := by omega
  simp [finish_eq, curAfter, mkSide, Spec.expected, sideOf, preOf, postOf, ho, hm,
    Option.map_eq_bind, Function.comp_def, Option.bind_assoc, e]

theorem run_render (ig : Bool) (hs : List Hunk) (d i : Nat) (s : Spec) (hw : s.WF) :
    run ig ⟨hs, none, d, i⟩ s.render = some ⟨hs ++ [s.expected], none, d + s.deletes, i + s.inserts⟩ := by
  have h := run_hunk ig hs d i s hw s.body.length (Nat.le_refl _)
    (fun _ => wf_open hw)
  rw [List.take_length, complete_closed (wf_closed hw), finish_curAfter hw] at h
  exact h

theorem complete_none (st : St) (h : st.cur = none) : complete st = st := by
  simp [complete, h]

theorem step_nonHunk (ig : Bool) (st : St) (g : Bytes) (hc : st.cur = none) (hg : NonHunk g) :
    step ig st g = if ig then .cont st else .stop := by
  have hm : startsWith g [64, 64] = true → matchHeader g = none := fun h1 =>
    Option.not_isSome_iff_eq_none.1 fun h2 => hg ⟨h1, h2⟩
  by_cases h1 : startsWith g [64, 64] = true
  · simp only [step, h1, hm h1, hc, complete_none st hc, if_true]
  · simp only [step, h1, hc, complete_none st hc, Bool.false_eq_true, if_false]

theorem run_garbage (ig : Bool) (st : St) (gs : List Bytes) (hc : st.cur = none)
    (hig : ig = true ∨ gs = []) (hg : ∀ g ∈ gs, NonHunk g) : run ig st gs = some st := by
  rcases hig with rfl | rfl
  · induction gs with
    | nil => rfl
    | cons g gs ih =>
      simp only [run, step_nonHunk true st g hc (hg g (by simp)), if_true]
      exact ih (fun x hx => hg x (by simp [hx]))
  · rfl

theorem loopP_strict_tail {st : St} {n : Nat} {prev : Bytes} {tail : List Bytes} (hc : st.cur = none)
    (ht : ∀ g, tail.head? = some g → NonHunk g) :
    loopP false st n prev tail = .ok ⟨st.hunks, n, st.deletes, st.inserts⟩ := by
  cases tail with
  | nil => simp [loopP, hc]
  | cons g t => simp [loopP, step_nonHunk false st g hc (ht g rfl)]

/-- well-formed hunks `segs`, each preceded by non-hunk lines, then non-hunk lines `pre`; non-hunk
lines only where they are ignored -/
structure Segs (ig : Bool) (segs : List (List Bytes × Spec)) (pre : List Bytes) : Prop where
  wf : ∀ sg ∈ segs, sg.2.WF
  ignored : ig = true ∨ (∀ sg ∈ segs, sg.1 = []) ∧ pre = []
  nonHunk : ∀ sg ∈ segs, ∀ g ∈ sg.1, NonHunk g
  nonHunkPre : ∀ g ∈ pre, NonHunk g

theorem Segs.tail {ig : Bool} {sg : List Bytes × Spec} {segs : List (List Bytes × Spec)} {pre : List Bytes}
    (h : Segs ig (sg :: segs) pre) : Segs ig segs pre :=
  ⟨fun x hx => h.wf x (List.mem_cons_of_mem _ hx),
    h.ignored.imp id (.imp (fun hn x hx => hn x (List.mem_cons_of_mem _ hx)) id),
    fun x hx => h.nonHunk x (List.mem_cons_of_mem _ hx), h.nonHunkPre⟩

theorem run_segs {ig : Bool} {segs : List (List Bytes × Spec)} {pre : List Bytes} (h : Segs ig segs pre)
    (hs : List Hunk) (d i : Nat) :
    run ig ⟨hs, none, d, i⟩ (C14.renderAll segs ++ pre) =
      some ⟨hs ++ segs.map (·.2.expected), none, d + C14.totalDeletes segs, i + C14.totalInserts segs⟩ := by
  induction segs generalizing hs d i with
  | nil =>
    have := run_garbage ig ⟨hs, none, d, i⟩ pre rfl (h.ignored.imp id (·.2)) h.nonHunkPre
    simpa [C14.renderAll, C14.totalDeletes, C14.totalInserts] using this
  | cons sg segs ih =>
    have h1 : run ig ⟨hs, none, d, i⟩ sg.1 = some ⟨hs, none, d, i⟩ :=
      run_garbage ig _ sg.1 rfl (h.ignored.imp id (·.1 sg (by simp))) (h.nonHunk sg (by simp))
    have h2 := run_render ig hs d i sg.2 (h.wf sg (by simp))
    have h3 := ih h.tail (hs ++ [sg.2.expected]) (d + sg.2.deletes) (i + sg.2.inserts)
    rw [show C14.renderAll (sg :: segs) ++ pre = sg.1 ++ (sg.2.render ++ (C14.renderAll segs ++ pre)) by
        simp [C14.renderAll],
      run_append, h1, Option.bind_some, run_append, h2, Option.bind_some, h3]
    simp [C14.totalDeletes, C14.totalInserts, Nat.add_assoc]

/-- the parser's state after the hunks `segs`: all reported, none open -/
def closed (segs : List (List Bytes × Spec)) : St :=
  ⟨segs.map (·.2.expected), none, C14.totalDeletes segs, C14.totalInserts segs⟩

theorem run_closed {ig : Bool} {segs : List (List Bytes × Spec)} {pre : List Bytes} (h : Segs ig segs pre) :
    run ig St.init (C14.renderAll segs ++ pre) = some (closed segs) := by
  simpa [closed, St.init] using run_segs h [] 0 0

theorem renderAll_specs (specs : List Spec) :
    C14.renderAll (specs.map fun s => ([], s)) = specs.flatMap Spec.render := by
  simp [C14.renderAll, List.flatMap_map]

theorem run_before {ig : Bool} {segs : List (List Bytes × Spec)} {pre : List Bytes} {s : Spec} {k : Nat}
    (h : Segs ig segs pre) (hs : s.WF) (hopen : OpenAfter s k) :
    run ig St.init (C14.renderAll segs ++ pre ++ (s.header :: (s.body.take k).map BLine.render)) =
      some (stAfter (segs.map (·.2.expected)) (C14.totalDeletes segs) (C14.totalInserts segs) s
        (s.body.take k)) := by
  have ho : isOpen s (s.body.take k) := hopen.2
  rw [run_append, run_closed h, Option.bind_some, closed,
    run_hunk ig _ _ _ s hs k hopen.1 (fun j hj => isOpen_take_mono (by omega) ho), complete_open ho]

theorem step_bad {ig : Bool} {hs : List Hunk} {d i : Nat} {s : Spec} {bl : List BLine} {bad : Bytes}
    (hbad : BadInHunk bad ∨ (startsWith bad [64, 64] = true ∧ (matchHeader bad).isSome = true)) :
    step ig (stAfter hs d i s bl) bad = .raise := by
  rcases hbad with (⟨h1, h2⟩ | ⟨h1, h2, h3, h4, h5⟩) | ⟨h1, h2⟩
  · simp [step, h1, h2, stAfter]
  · simp [step, h1, h2, h3, h4, h5, stAfter]
  · obtain ⟨r, hr⟩ := Option.isSome_iff_exists.1 h2
    simp [step, h1, hr, stAfter]

/-- what `C14_total` says of an outcome, for the lines `lines` read from position `n` on -/
def Located (lines : List Bytes) (n : Nat) : Outcome → Prop
  | .ok r => r.processed ≤ n + lines.length
  | .malformed m l _ => n + 1 ≤ m ∧ m ≤ n + lines.length ∧ lines[m - n - 1]? = some l

theorem Located.cons {line : Bytes} {rest : List Bytes} {n : Nat} :
    ∀ {o : Outcome}, Located rest (n + 1) o → Located (line :: rest) n o
  | .ok r, h => by
    simp only [Located, List.length_cons] at h ⊢
    omega
  | .malformed m l _, ⟨h1, h2, h3⟩ => by
    refine ⟨by omega, by simp only [List.length_cons]; omega, ?_⟩
    rw [show m - n - 1 = (m - (n + 1) - 1) + 1 by omega, List.getElem?_cons_succ]
    exact h3

theorem loopP_located (ig : Bool) (st : St) (n : Nat) (prev : Bytes) (rest : List Bytes)
    (h : rest = [] → st.cur = none) : Located rest n (loopP ig st n prev rest) := by
  induction rest generalizing st n prev with
  | nil => simp [loopP, h rfl, Located]
  | cons line rest ih =>
    have here (k : ErrKind) : Located (line :: rest) n (.malformed (n + 1) line k) :=
      ⟨Nat.le_refl _, by simp, by simp⟩
    rw [loopP]
    cases step ig st line with
    | raise => exact here _
    | stop => simp [Located]
    | cont st' =>
      cases rest with
      | cons y r => exact (ih st' (n + 1) line nofun).cons
      | nil =>
        cases hc : st'.cur with
        | none => exact (ih st' (n + 1) line fun _ => hc).cons
        | some c =>
          simp only [loopP, hc]
          exact here _

/-- the running totals agree with the per-hunk changed-line counts -/
def Inv (st : St) : Prop :=
  st.deletes = (st.hunks.map (·.orig.changed)).sum + (match st.cur with | some c => c.orig.changed | none => 0) ∧
  st.inserts = (st.hunks.map (·.modified.changed)).sum + (match st.cur with | some c => c.modified.changed | none => 0)

theorem Inv_complete (st : St) (h : Inv st) : Inv (complete st) := by
  unfold complete
  split
  · rename_i c hc
    split
    · unfold Inv at h ⊢
      simp only [hc] at h
      simp [finish, h.1, h.2]
    · exact h
  · exact h

theorem convHdr_changed {raw : RawHdr} {o m : Side} {ctx : Option Bytes}
    (h : convHdr raw = some (o, m, ctx)) : o.changed = 0 ∧ m.changed = 0 := by
  simp only [convHdr, Option.ite_none_right_eq_some, Option.some.injEq, Prod.mk.injEq] at h
  obtain ⟨_, rfl, rfl, _⟩ := h
  exact ⟨rfl, rfl⟩

theorem ite_both {α : Type} (P : α → Prop) {c : Prop} [Decidable c] {a b : α} (ha : P a) (hb : P b) :
    P (if c then a else b) := by
  split
  · exact ha
  · exact hb

def StepR.All (P : St → Prop) : StepR → Prop
  | .cont st => P st
  | _ => True

/-- every arm of `step` that continues keeps the totals in step with the changed-line counts;
which arm is taken plays no part -/
theorem step_all_inv (ig : Bool) (st : St) (line : Bytes) (h : Inv st) : (step ig st line).All Inv := by
  have arm {c : Prop} [Decidable c] {a b : StepR} := @ite_both _ (StepR.All Inv) c _ a b
  have garbage : (match st.cur with
      | some _ => StepR.raise
      | none => if ig then StepR.cont (complete st) else StepR.stop).All Inv := by
    split
    · trivial
    · exact arm (Inv_complete st h) trivial
  unfold step
  refine arm ?_ ?_
  · -- a line starting with `@@`: a header (refused inside a hunk, or when `int()` refuses) or garbage
    split
    · split
      · trivial
      · split
        · trivial
        · rename_i hc _ o m ctx hconv
          obtain ⟨ho, hm⟩ := convHdr_changed hconv
          simp only [Inv, hc] at h
          exact Inv_complete _ (by simp [Inv, h.1, h.2, ho, hm])
    · exact garbage
  · -- any other line: `-`, `+`, context, or a marker inside a hunk; garbage outside
    split
    · rename_i c hc
      simp only [Inv, hc] at h
      refine arm ?_ (arm ?_ (arm ?_ (arm trivial ?_)))
      · exact Inv_complete _ (by simp [Inv, Side.bump, h.1, h.2]; omega)
      · exact Inv_complete _ (by simp [Inv, Side.bump, h.1, h.2]; omega)
      · exact Inv_complete _ (by simp [Inv, h.1, h.2])
      · exact Inv_complete _ (by simp [Inv, hc, h.1, h.2])
    · exact arm (Inv_complete st h) trivial

theorem Inv_step {ig : Bool} {st st' : St} {line : Bytes} (h : Inv st)
    (hs : step ig st line = .cont st') : Inv st' := by
  have := step_all_inv ig st line h
  rwa [hs] at this

theorem step_stop_cur {ig : Bool} {st : St} {line : Bytes} (hs : step ig st line = .stop) :
    st.cur = none := by
  cases hc : st.cur with
  | none => rfl
  | some c =>
    -- inside a hunk no arm stops: a line starting with `@@` raises (header or not), `-`, `+` and
    -- context lines continue, any other line raises unless it is a marker, which continues
    have arm {c : Prop} [Decidable c] {a b : StepR} := @ite_both _ (· ≠ StepR.stop) c _ a b
    have : step ig st line ≠ .stop := by
      unfold step
      rw [hc]
      dsimp only
      refine arm ?atat (arm ?del (arm ?ins (arm ?ctx (arm ?other ?marker))))
      case atat => split <;> nofun
      all_goals nofun
    exact absurd hs this

theorem loopP_inv (ig : Bool) (st : St) (n : Nat) (prev : Bytes) (lines : List Bytes) (r : Result) (h : Inv st)
    (hr : loopP ig st n prev lines = .ok r) :
    r.deletes = (r.hunks.map (·.orig.changed)).sum ∧
      r.inserts = (r.hunks.map (·.modified.changed)).sum := by
  have done {st : St} {n : Nat} (h : Inv st) (hc : st.cur = none)
      (e : Outcome.ok ⟨st.hunks, n, st.deletes, st.inserts⟩ = .ok r) :
      r.deletes = (r.hunks.map (·.orig.changed)).sum ∧
      r.inserts = (r.hunks.map (·.modified.changed)).sum := by
    cases e
    simpa [Inv, hc] using h
  induction lines generalizing st n prev with
  | nil =>
    cases hc : st.cur with
    | some c => simp [loopP, hc] at hr
    | none => exact done h hc (by simpa only [loopP, hc] using hr)
  | cons line rest ih =>
    cases hstep : step ig st line with
    | raise => simp [loopP, hstep] at hr
    | stop => exact done h (step_stop_cur hstep) (by simpa only [loopP, hstep] using hr)
    | cont st' => exact ih st' (n + 1) line (Inv_step h hstep) (by simpa only [loopP, hstep] using hr)

end Diffx.Hunks
