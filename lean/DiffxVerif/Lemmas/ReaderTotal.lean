import DiffxVerif.Lemmas.ReaderStep
import DiffxVerif.Lemmas.Split
/-!
# Totality and error positions of the streaming reader

Everything `readContent` can return is one predicate on the result (`RCSpec`, `readContent_spec`).  With
what an iteration can return (`Lemmas/ReaderStep.lean`, where `stepSection_progress` makes any fuel above
the length of the input enough) it gives the two facts about one iteration that the statements about runs
are inductions over (`readLoop_induct`):

* the measure `Loop.mu l = linenum + countLF rest` does not grow (`stepSection_mu`), which bounds the
  line numbers; this is where every encoded newline has to contain LF (`NlHasLF`);
* a failing section reports a position in the header line just read, or an artefact with its cause
  (`ErrPos`, `stepSection_error`).
-/
namespace Diffx.Reader
open Diffx Diffx.Header

/-- the environment answers every call (no `missing`): true of CPython -/
def EnvTotal (env : Env) : Prop :=
  (∀ n q, env.canon n ≠ .missing q) ∧ (∀ n t q, env.encode n t ≠ .missing q) ∧
  (∀ n b q, env.decode n b ≠ .missing q) ∧ (∀ t q, env.loadsText t ≠ .missing q) ∧
  (∀ b q, env.loadsBytes b ≠ .missing q) ∧ (∀ j q, env.dumps j ≠ .missing q)

/-- no codec encodes LF / CRLF as the empty byte string (after BOM removal) -/
def NlNonempty (env : Env) (cfg : Config) : Prop :=
  ∀ e dos raw b, env.encode e (nlText dos) = .ok raw → stripBom env cfg raw (some e) = .ok b → b ≠ []

/-- every encoded newline contains the byte LF (false for EBCDIC code pages:
known finding D21) -/
def NlHasLF (env : Env) (cfg : Config) : Prop :=
  ∀ e dos raw b, env.encode e (nlText dos) = .ok raw → stripBom env cfg raw (some e) = .ok b → (10 : UInt8) ∈ b

/-- the LF bytes of `d`: no more lines than these can be counted while reading `d` -/
def countLF (d : Bytes) : Nat := d.count 10

theorem countLF_append (a b : Bytes) : countLF (a ++ b) = countLF a + countLF b := by
  simp [countLF]

theorem countLF_pos_of_mem {l : Bytes} (h : (10 : UInt8) ∈ l) : 0 < countLF l := by
  unfold countLF; exact List.count_pos_iff.mpr h

/-- what `_read_content` can return, as far as the loop is concerned.  Accepted: the bytes taken end with
the section's newline, the stream has advanced by `length` bytes and the line counter by their lines.
Refused: a parse error at the current line, or the cause in the environment. -/
def RCSpec (env : Env) (cfg : Config) (st : St) (length : Nat) : M (Got × St) → Prop
  | .ok (_, st') =>
    ∃ newline dos enc, newlineFor env cfg st.linenum dos enc = .ok newline ∧ newline ≠ [] ∧
      endsWith (st.rest.take length) newline = true ∧
      st' = { st with rest := st.rest.drop length,
                      linenum := st.linenum + (splitLines (st.rest.take length) newline true).length }
  | .error o =>
    o = .parseError st.linenum none ∨
    (∃ dos enc, newlineFor env cfg st.linenum dos enc = .error o) ∨
    (o = .assertion ∧ ∃ dos enc, newlineFor env cfg st.linenum dos enc = .ok []) ∨
    (∃ e c, liftEnv st.linenum (env.decode e c) = .error o)

theorem readContent_spec {env : Env} {cfg : Config} {st : St} {length : Nat} {encoding indent le : Option OptVal}
    {kb : Bool} {x : M (Got × St)} (hr : readContent env cfg st length encoding indent le kb = x) :
    RCSpec env cfg st length x := by
  cases x with
  | ok p =>
    rw [readContent_core] at hr
    obtain ⟨⟨got, k⟩, hc, rfl⟩ := Except.map_ok hr
    obtain ⟨-, enc, nl, ind, ha⟩ := rcCore_ok hc
    obtain ⟨dos, hd⟩ := rcNewline_ok ha.newline
    exact ⟨nl, dos, enc, hd, ha.nl_ne, ha.ends, by rw [ha.lines]⟩
  | error o =>
    rw [readContent_core] at hr
    have hr := Except.map_error hr
    unfold rcCore at hr
    rcases Except.bind_error hr with h | ⟨enc, -, hr⟩
    · exact Or.inl (rcEnc_error h)
    rcases Except.bind_error hr with h | ⟨_, -, hr⟩
    · exact Or.inl (guardPE_error h)
    rcases Except.bind_error hr with h | ⟨nl, hnl, hr⟩
    · rcases rcNewline_error h with h | ⟨dos, h⟩
      · exact Or.inl h
      · exact Or.inr (Or.inl ⟨dos, enc, h⟩)
    obtain ⟨dos, hd⟩ := rcNewline_ok hnl
    unfold rcTail at hr
    rcases Except.bind_error hr with h | ⟨_, -, hr⟩
    · cases hn : nl.isEmpty
      · rw [hn] at h; cases h
      · rw [hn] at h; cases h
        rw [List.isEmpty_iff.mp hn] at hd
        exact Or.inr (Or.inr (Or.inl ⟨rfl, dos, enc, hd⟩))
    rcases Except.bind_error hr with h | ⟨_, -, hr⟩
    · exact Or.inl (guardPE_error h)
    rcases Except.bind_error hr with h | ⟨ind, -, hr⟩
    · exact Or.inl (rcInd_error h)
    rcases Except.bind_error hr with h | ⟨g, -, hr⟩
    · rcases rcDecode_error h with h | h
      · exact Or.inl h
      · exact Or.inr (Or.inr (Or.inr h))
    · cases hr

theorem EnvTotal.not_missing {env : Env} (ht : EnvTotal env) (q : String) : ¬ EnvMissing env q := by
  obtain ⟨h1, h2, h3, h4, h5, _⟩ := ht
  rintro (⟨n, h⟩ | ⟨n, t, h⟩ | ⟨n, b, h⟩ | ⟨t, h⟩ | ⟨b, h⟩)
  · exact h1 _ _ h
  · exact h2 _ _ _ h
  · exact h3 _ _ _ h
  · exact h4 _ _ h
  · exact h5 _ _ h

theorem countGo_le_countLF {nl : Bytes} (hm : (10 : UInt8) ∈ nl) (d : Bytes) (skip : Nat) :
    countGo nl skip d ≤ countLF (d.drop skip) := by
  induction d generalizing skip with
  | nil => simp [countGo]
  | cons x xs ih =>
    cases skip with
    | succ k => simpa [countGo] using ih k
    | zero =>
      by_cases hp : nl.isPrefixOf (x :: xs) = true
      · rw [countGo, if_pos hp, List.drop_zero, cons_eq_append_drop (List.ne_nil_of_mem hm) hp, countLF_append]
        have h := ih (nl.length - 1)
        have := countLF_pos_of_mem hm
        omega
      · rw [countGo, if_neg hp]
        have h := ih 0
        simp only [List.drop_zero] at h ⊢
        have : countLF xs ≤ countLF (x :: xs) := by
          unfold countLF; exact List.count_le_count_cons
        omega

theorem countOcc_le_countLF {nl : Bytes} (hm : (10 : UInt8) ∈ nl) (d : Bytes) :
    countOcc nl d ≤ countLF d := by
  simpa [countOcc] using countGo_le_countLF hm d 0

theorem lines_le_countLF {nl data : Bytes} (hm : (10 : UInt8) ∈ nl) (hs : endsWith data nl = true) :
    (splitLines data nl true).length ≤ countLF data := by
  rw [splitLines_keep_length data (List.ne_nil_of_mem hm), if_pos (endsWith_iff_suffix.1 hs), Nat.add_zero]
  exact countOcc_le_countLF hm data

/-- the line-number measure: `linenum` plus the LF bytes still unread -/
def Loop.mu (l : Loop) : Nat := l.st.linenum + countLF l.st.rest

theorem Loop.mu_init (data : Bytes) : (Loop.init data).mu = countLF data := by
  simp [Loop.mu, Loop.init]

theorem stepSection_mu {env : Env} {cfg : Config} {chunk : Nat} (hl : NlHasLF env cfg) {l : Loop}
    {r : Record} {l' : Loop} (h : stepSection env cfg chunk l = .ok (some (r, l'))) :
    r.line = l.st.linenum ∧ r.line < l.mu ∧ l'.mu ≤ l.mu := by
  obtain ⟨hdr, ln, st, hrh, hs⟩ := stepSection_ok_iff.1 h
  obtain ⟨hln, hst1, pre, header, _, hpre, hmem, -⟩ := readHeader_ok hrh
  have hpos := countLF_pos_of_mem hmem
  have hc : countLF l.st.rest = countLF pre + countLF header + countLF st.rest := by
    rw [hpre, countLF_append, countLF_append]
  obtain ⟨_, rfl, -, -, hst⟩ := stepHdr_ok hs
  unfold Loop.mu
  refine ⟨hln, by simp only; omega, ?_⟩
  rcases hst with hst | ⟨len, enc, ind, le, kb, got, hrc⟩
  · rw [hst]; omega
  · obtain ⟨newline, dos, enc', hnl, _, hends, hst'⟩ := readContent_spec hrc
    obtain ⟨e, raw, he, hs⟩ := newlineFor_ok hnl
    have hm : (10 : UInt8) ∈ newline := hl e dos raw newline he hs
    have hlines := lines_le_countLF hm hends
    have hsplit : countLF st.rest = countLF (st.rest.take len) + countLF (st.rest.drop len) := by
      rw [← countLF_append, List.take_append_drop]
    rw [hst']
    simp only
    omega

/-- what a failing section can report: a parse error positioned at the header
line just read (line number at most one past the loop's, column inside the
header line), or one of the two artefacts with their cause -/
def ErrPos (env : Env) (cfg : Config) (l : Loop) (o : Outcome) : Prop :=
  (∃ n c, o = .parseError n c ∧ ∃ pre header rest', l.st.rest = pre ++ header ++ rest' ∧
      (10 : UInt8) ∈ header ∧ n ≤ l.st.linenum + 1 ∧ ∀ c', c = some c' → c' < header.length) ∨
  (o = .assertion ∧ ∃ e dos raw, env.encode e (nlText dos) = .ok raw ∧
      stripBom env cfg raw (some e) = .ok []) ∨
  (∃ q, o = .needEnv q ∧ EnvMissing env q)

theorem stepSection_error {env : Env} {cfg : Config} {chunk : Nat} {l : Loop} {o : Outcome}
    (h : stepSection env cfg chunk l = .error o) : ErrPos env cfg l o := by
  rw [stepSection_chain] at h
  rcases Except.bind_error h with hrh | ⟨x, hrh, hx⟩
  · obtain ⟨pre, header, rest', hpre, hmem, c, ho, hc⟩ := readHeader_error hrh
    exact Or.inl ⟨_, c, ho, pre, header, rest', hpre, hmem, by omega, hc⟩
  · obtain _ | ⟨hdr, ln, st⟩ := x
    · cases hx
    obtain ⟨hln, hst1, pre, header, _, hpre, hmem, -⟩ := readHeader_ok hrh
    have pe : ∀ n, n ≤ l.st.linenum + 1 → ErrPos env cfg l (.parseError n none) :=
      fun n hn => Or.inl ⟨n, none, rfl, pre, header, st.rest, hpre, hmem, hn, by simp⟩
    have lift : ∀ {α} (x : EnvR α) n, n ≤ l.st.linenum + 1 → (∀ q, x = .missing q → EnvMissing env q) →
        liftEnv n x = .error o → ErrPos env cfg l o := by
      intro α x n hn hm hx
      rcases liftEnv_error hx with h | ⟨q, h1, h2⟩
      · rw [h]; exact pe n hn
      · exact Or.inr (Or.inr ⟨q, h1, hm q h2⟩)
    have nlerr : ∀ dos enc, newlineFor env cfg st.linenum dos enc = .error o → ErrPos env cfg l o := by
      intro dos enc hx
      rcases newlineFor_error hx with h | ⟨q, h1, h2⟩
      · rw [h]; exact pe _ (by omega)
      · exact Or.inr (Or.inr ⟨q, h1, h2⟩)
    rcases stepHdr_error hx with rfl | ⟨len, enc, ind, le, kb, hrc⟩ | ⟨t, ht⟩ | ⟨b, hb⟩
    · exact pe _ (by omega)
    · rcases readContent_spec hrc with rfl | ⟨dos, enc', hx⟩ | ⟨rfl, dos, enc', hx⟩ | ⟨e, c, hx⟩
      · exact pe _ (by omega)
      · exact nlerr _ _ hx
      · obtain ⟨e, raw, he, hs⟩ := newlineFor_ok hx
        exact Or.inr (Or.inl ⟨rfl, e, dos, raw, he, hs⟩)
      · exact lift _ _ (by omega) (fun q hq => Or.inr (Or.inr (Or.inl ⟨_, _, hq⟩))) hx
    · exact lift _ _ (by omega) (fun q hq => Or.inr (Or.inr (Or.inr (Or.inl ⟨_, hq⟩)))) ht
    · exact lift _ _ (by omega) (fun q hq => Or.inr (Or.inr (Or.inr (Or.inr ⟨_, hq⟩)))) hb

theorem stepSection_not_outOfFuel {env : Env} {cfg : Config} {chunk : Nat} {l : Loop} :
    stepSection env cfg chunk l ≠ .error .outOfFuel := by
  intro h
  rcases stepSection_error h with ⟨n, c, h, _⟩ | ⟨h, _⟩ | ⟨q, h, _⟩ <;> cases h

theorem readLoop_outcome_cases {env : Env} {cfg : Config} {chunk : Nat} {fuel : Nat} {l : Loop}
    (hf : l.st.rest.length < fuel) :
    (readLoop env cfg chunk fuel l).2 = .done ∨
      ∃ l', stepSection env cfg chunk l' = .error (readLoop env cfg chunk fuel l).2 := by
  induction fuel, l using readLoop_induct env cfg chunk with
  | zero l => omega
  | error fuel l o hs =>
    rw [readLoop_error fuel hs]
    exact .inr ⟨l, hs⟩
  | done fuel l hs =>
    rw [readLoop_done fuel hs]
    exact .inl rfl
  | cons fuel l r l' hs ih =>
    rw [readLoop_cons fuel hs]
    have := stepSection_progress hs
    exact ih (by omega)

theorem readLoop_not_outOfFuel {env : Env} {cfg : Config} {chunk : Nat} {fuel : Nat} {l : Loop}
    (hf : l.st.rest.length < fuel) : (readLoop env cfg chunk fuel l).2 ≠ .outOfFuel := by
  rcases readLoop_outcome_cases hf with h | ⟨l', h⟩
  · rw [h]
    nofun
  · exact fun e => stepSection_not_outOfFuel (e ▸ h)

theorem stepSection_error_parse {env : Env} {cfg : Config} {chunk : Nat} (ht : EnvTotal env)
    (hn : NlNonempty env cfg) {l : Loop} {o : Outcome} (h : stepSection env cfg chunk l = .error o) :
    ∃ n c, o = .parseError n c := by
  rcases stepSection_error h with ⟨n, c, h, _⟩ | ⟨_, e, dos, raw, he, hs⟩ | ⟨q, _, hq⟩
  · exact ⟨n, c, h⟩
  · exact absurd rfl (hn e dos raw [] he hs)
  · exact absurd hq (ht.not_missing q)

theorem readLoop_outcome {env : Env} {cfg : Config} {chunk : Nat} (ht : EnvTotal env)
    (hn : NlNonempty env cfg) {fuel : Nat} {l : Loop} (hf : l.st.rest.length < fuel) :
    (readLoop env cfg chunk fuel l).2 = .done ∨ ∃ n c, (readLoop env cfg chunk fuel l).2 = .parseError n c :=
  (readLoop_outcome_cases hf).imp_right fun ⟨_, h⟩ => stepSection_error_parse ht hn h

theorem readLoop_inv (env : Env) (cfg : Config) (chunk : Nat) (hl : NlHasLF env cfg) (fuel : Nat) (l : Loop) :
    (∀ r ∈ (readLoop env cfg chunk fuel l).1, r.line < l.mu) ∧
    (∀ n c, (readLoop env cfg chunk fuel l).2 = .parseError n c → n ≤ l.mu) := by
  induction fuel, l using readLoop_induct env cfg chunk with
  | zero l => simp [readLoop]
  | error fuel l o hs =>
    rw [readLoop_error fuel hs]
    refine ⟨by simp, ?_⟩
    rintro n c rfl
    rcases stepSection_error hs with ⟨n', c', h, pre, header, rest', hpre, hmem, hle, _⟩ | ⟨h, _⟩ | ⟨q, h, _⟩
    · cases h
      have hpos := countLF_pos_of_mem hmem
      unfold Loop.mu
      rw [hpre, countLF_append, countLF_append]
      omega
    · cases h
    · cases h
  | done fuel l hs =>
    rw [readLoop_done fuel hs]
    simp
  | cons fuel l r l' hs ih =>
    rw [readLoop_cons fuel hs]
    obtain ⟨_, h2, h3⟩ := stepSection_mu hl hs
    obtain ⟨i1, i2⟩ := ih
    refine ⟨?_, fun n c ho => Nat.le_trans (i2 n c ho) h3⟩
    intro r' hr'
    rcases List.mem_cons.mp hr' with rfl | hr'
    · exact h2
    · exact Nat.lt_of_lt_of_le (i1 r' hr') h3

theorem readLoop_column {env : Env} {cfg : Config} {chunk : Nat} {fuel : Nat} {l : Loop} {n c : Nat}
    (h : (readLoop env cfg chunk fuel l).2 = .parseError n (some c)) : c < l.st.rest.length := by
  induction fuel, l using readLoop_induct env cfg chunk with
  | zero l => simp [readLoop] at h
  | error fuel l o hs =>
    rw [readLoop_error fuel hs] at h
    subst h
    rcases stepSection_error hs with ⟨n', c', h, pre, header, rest', hpre, _, _, hc⟩ | ⟨h, _⟩ | ⟨q, h, _⟩
    · cases h
      have := hc c rfl
      rw [hpre]
      simp only [List.length_append]
      omega
    · cases h
    · cases h
  | done fuel l hs =>
    rw [readLoop_done fuel hs] at h
    cases h
  | cons fuel l r l' hs ih =>
    rw [readLoop_cons fuel hs] at h
    have hp := stepSection_progress hs
    have := ih h
    omega

theorem readAll_not_outOfFuel (env : Env) (cfg : Config) (chunk : Nat) (data : Bytes) :
    (readAll env cfg chunk data).2 ≠ .outOfFuel :=
  readLoop_not_outOfFuel (by simp [Loop.init])

end Diffx.Reader
