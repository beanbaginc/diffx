import DiffxVerif.Model.Dom
import DiffxVerif.Lemmas.Except
import DiffxVerif.Lemmas.Assoc
/-!
# Lemmas about statistics generation (`Dom.*.genStats`)

`mergeStats` writes the computed figures over the `stats` entry of a metadata dictionary.  A pair
that has been written is the only entry under its key (`Holds`), and writing such a pair again
changes nothing (`objSet_fixed`); `mergeStats_ok` describes every successful merge in these terms,
and idempotence follows at every level.  At the container levels the accumulating loops are `mapM`
followed by a sum (`foldlM_sum`), so a figure that was accumulated over the children and merged
back reads as the sum of what the children report (`statOf_sum`).  `file_genStats_cases`,
`change_genStats_ok`, `tree_genStats_ok` describe every successful run of one level.
-/
namespace Diffx.C13
open Diffx Diffx.Dom

/-- the statistics `generate_stats` computes for a file -/
def fileStats (dels ins : Nat) : List (Text × Json) :=
  [(tx b!"deletions", .int dels), (tx b!"insertions", .int ins), (tx b!"lines changed", .int (dels + ins))]

end Diffx.C13

namespace Diffx.Dom
open Diffx

theorem error_bind {ε α β : Type} (e : ε) (f : α → Except ε β) :
    ((Except.error e : Except ε α) >>= f) = .error e := rfl

theorem map_ok {ε α β : Type} {x : Except ε α} {f : α → β} {b : β}
    (h : f <$> x = .ok b) : ∃ a, x = .ok a ∧ f a = b :=
  Except.map_ok h

theorem any_of_lookup (l : List (Text × Json)) (k : Text) (v : Json) (h : l.lookup k = some v) :
    l.any (·.1 == k) = true := by
  cases hh : l.any (·.1 == k) with
  | true => rfl
  | false =>
    rw [Assoc.lookup_none_iff_any.2 hh] at h
    cases h

theorem objGet_objSet (l : List (Text × Json)) (k k' : Text) (v : Json) :
    objGet (objSet l k v) k' = if k' = k then some v else objGet l k' :=
  (Assoc.lookup_set l k k' v).trans (by simp only [beq_iff_eq]; rfl)

theorem mem_objSet (l : List (Text × Json)) (k : Text) (v : Json) (p : Text × Json) :
    p ∈ objSet l k v ↔ (p ∈ l ∧ p.1 ≠ k) ∨ p = (k, v) := by
  unfold objSet
  cases hh : l.any (·.1 == k) with
  | false =>
    have hno : ∀ q ∈ l, q.1 ≠ k := fun q hq => by simpa using List.any_eq_false.mp hh q hq
    rw [if_neg Bool.false_ne_true, List.mem_append, List.mem_singleton]
    exact ⟨fun h => h.imp (fun h => ⟨h, hno p h⟩) id, fun h => h.imp And.left id⟩
  | true =>
    obtain ⟨q0, hq0, hk0⟩ := List.any_eq_true.mp hh
    rw [if_pos rfl, List.mem_map]
    constructor
    · rintro ⟨q, hq, rfl⟩
      by_cases hqk : q.1 = k
      · exact .inr (by simp [hqk])
      · exact .inl (by simpa [hqk] using hq)
    · rintro (⟨hp, hpk⟩ | rfl)
      · exact ⟨p, hp, by simp [hpk]⟩
      · exact ⟨q0, hq0, by simp [hk0]⟩

/-- a property of a dictionary that setting other keys preserves survives the merge loop -/
theorem foldl_objSet_notin {P : List (Text × Json) → Prop} (stats old : List (Text × Json)) (k : Text)
    (hk : k ∉ stats.map (·.1)) (hP : ∀ l k' v', k' ≠ k → P l → P (objSet l k' v')) (h : P old) :
    P (stats.foldl (fun o p => objSet o p.1 p.2) old) := by
  induction stats generalizing old with
  | nil => exact h
  | cons q rest ih =>
    simp only [List.map_cons, List.mem_cons, not_or] at hk
    exact ih _ hk.2 (hP old q.1 q.2 (fun e => hk.1 e.symm) h)

theorem objGet_foldl_notin (stats old : List (Text × Json)) (k : Text) (hk : k ∉ stats.map (·.1)) :
    objGet (stats.foldl (fun o p => objSet o p.1 p.2) old) k = objGet old k :=
  foldl_objSet_notin (P := fun l => objGet l k = objGet old k) stats old k hk
    (fun l k' v' hne h => by rw [objGet_objSet, if_neg (fun e => hne e.symm), h]) rfl

/-- `(k, v)` is in `l` and is its only entry under key `k` -/
def Holds (l : List (Text × Json)) (k : Text) (v : Json) : Prop :=
  (k, v) ∈ l ∧ ∀ p ∈ l, p.1 = k → p = (k, v)

theorem objSet_holds (l : List (Text × Json)) (k : Text) (v : Json) : Holds (objSet l k v) k v := by
  refine ⟨(mem_objSet ..).mpr (.inr rfl), fun p hp hpk => ?_⟩
  rcases (mem_objSet ..).mp hp with ⟨_, hne⟩ | rfl
  · exact absurd hpk hne
  · rfl

theorem objSet_fixed {l : List (Text × Json)} {k : Text} {v : Json} (h : Holds l k v) :
    objSet l k v = l := by
  unfold objSet
  rw [if_pos (List.any_eq_true.mpr ⟨_, h.1, by simp⟩)]
  conv => rhs; rw [← List.map_id l]
  apply List.map_congr_left
  intro p hp
  by_cases hpk : p.1 = k
  · simp [hpk, (h.2 p hp hpk).symm]
  · have : (p.1 == k) = false := by simpa using hpk
    simp [this]

theorem holds_objSet_ne (l : List (Text × Json)) (k k' : Text) (v v' : Json) (hk : k' ≠ k)
    (h : Holds l k v) : Holds (objSet l k' v') k v := by
  refine ⟨(mem_objSet ..).mpr (.inl ⟨h.1, fun e => hk e.symm⟩), fun p hp hpk => ?_⟩
  rcases (mem_objSet ..).mp hp with ⟨hp, _⟩ | rfl
  · exact h.2 p hp hpk
  · exact absurd hpk hk

theorem holds_foldl_notin {stats old : List (Text × Json)} {k : Text} {v : Json}
    (hk : k ∉ stats.map (·.1)) (h : Holds old k v) :
    Holds (stats.foldl (fun o p => objSet o p.1 p.2) old) k v :=
  foldl_objSet_notin (P := (Holds · k v)) stats old k hk (fun l k' v' hne => holds_objSet_ne l k k' v v' hne) h

theorem holds_foldl_mem (stats old : List (Text × Json)) (hs : (stats.map (·.1)).Nodup)
    (p : Text × Json) (hp : p ∈ stats) :
    Holds (stats.foldl (fun o p => objSet o p.1 p.2) old) p.1 p.2 := by
  induction stats generalizing old with
  | nil => cases hp
  | cons q rest ih =>
    simp only [List.map_cons, List.nodup_cons] at hs
    rw [List.foldl_cons]
    rcases List.mem_cons.mp hp with rfl | hp
    · exact holds_foldl_notin hs.1 (objSet_holds old _ _)
    · exact ih _ hs.2 hp

theorem foldl_fixed (stats l : List (Text × Json)) (h : ∀ p ∈ stats, Holds l p.1 p.2) :
    stats.foldl (fun o p => objSet o p.1 p.2) l = l := by
  induction stats with
  | nil => rfl
  | cons q rest ih =>
    rw [List.foldl_cons, objSet_fixed (h q (by simp))]
    exact ih (fun p hp => h p (by simp [hp]))

theorem holds_self (stats : List (Text × Json)) (hs : (stats.map (·.1)).Nodup)
    (p : Text × Json) (hp : p ∈ stats) : Holds stats p.1 p.2 := by
  refine ⟨hp, fun r hr hrk => ?_⟩
  -- with distinct keys, both are what `lookup` finds under the key
  have h1 := Assoc.lookup_of_mem_nodup hs (k := p.1) (v := p.2) hp
  have h2 := Assoc.lookup_of_mem_nodup hs (k := r.1) (v := r.2) hr
  rw [hrk, h1] at h2
  exact Prod.ext hrk (Option.some.inj h2).symm

theorem objGet_of_holds {l : List (Text × Json)} {k : Text} {v : Json} (h : Holds l k v) :
    objGet l k = some v := by
  have e : objGet (objSet l k v) k = some v := by rw [objGet_objSet, if_pos rfl]
  rwa [objSet_fixed h] at e

theorem mergeStats_ok {mv : PyVal} {stats : List (Text × Json)} (hs : (stats.map (·.1)).Nodup)
    {m' : PyVal} (h : mergeStats mv stats = .ok m') :
    ∃ m st, mv = .dict (.obj m) ∧ m' = .dict (.obj (objSet m (tx b!"stats") (.obj st))) ∧
      (∀ p ∈ stats, Holds st p.1 p.2) ∧
      (objGet m (tx b!"stats") = none ∨
       ∃ old, objGet m (tx b!"stats") = some (.obj old) ∧
         st = stats.foldl (fun o p => objSet o p.1 p.2) old) := by
  unfold mergeStats at h
  split at h
  · split at h
    · cases h
      exact ⟨_, _, rfl, rfl, holds_self stats hs, .inl ‹_›⟩
    · cases h
      exact ⟨_, _, rfl, rfl, holds_foldl_mem stats _ hs, .inr ⟨_, ‹_›, rfl⟩⟩
    · cases h
  · cases h

theorem mergeStats_idem {mv : PyVal} {stats : List (Text × Json)} (hs : (stats.map (·.1)).Nodup)
    {m' : PyVal} (h : mergeStats mv stats = .ok m') : mergeStats m' stats = .ok m' := by
  obtain ⟨m, st, rfl, rfl, hh, _⟩ := mergeStats_ok hs h
  simp only [mergeStats, objGet_objSet, if_true]
  rw [foldl_fixed stats st hh, objSet_fixed (objSet_holds _ _ _)]

theorem fileStats_nodup (d i : Nat) : ((C13.fileStats d i).map (·.1)).Nodup := by
  simp only [C13.fileStats, List.map_cons, List.map_nil]
  decide

/-- the binary test of `generate_stats` -/
abbrev isBinary (f : FileSec) : Bool :=
  (f.diff.opts.get b!"type").elim false (fun v => v.pyEq (.str (tx b!"binary")))

theorem file_genStats_bytes {env : Env} {cfg : Config} {f : FileSec} {diff : Bytes}
    (hd : f.diff.content = .bytes diff) :
    f.genStats env cfg =
      if diff.isEmpty then .ok f else if isBinary f then .ok f else
      statsNewline env cfg f diff >>= fun nl =>
        if nl.isEmpty then .ok f else
          match Hunks.parse (splitLines diff nl false) true with
          | .malformed .. => .ok f
          | .ok r => mergeStats f.metaSec.content (C13.fileStats r.deletes r.inserts) >>= fun m =>
              .ok { f with metaSec := { f.metaSec with content := m } } := by
  unfold FileSec.genStats
  rw [hd]
  rfl

theorem file_genStats_other {env : Env} {cfg : Config} {f : FileSec}
    (h : ∀ b, f.diff.content ≠ .bytes b) : f.genStats env cfg = .ok f := by
  unfold FileSec.genStats
  split
  · rename_i diff hd
    exact absurd hd (h diff)
  · rfl

theorem file_genStats_run {env : Env} {cfg : Config} {f : FileSec} {diff nl : Bytes}
    (hd : f.diff.content = .bytes diff) (hne : diff.isEmpty = false) (hbin : isBinary f = false)
    (hnl : statsNewline env cfg f diff = .ok nl) (hn : nl.isEmpty = false) :
    f.genStats env cfg =
      match Hunks.parse (splitLines diff nl false) true with
      | .malformed .. => .ok f
      | .ok r => (mergeStats f.metaSec.content (C13.fileStats r.deletes r.inserts)) >>= fun m =>
          pure { f with metaSec := { f.metaSec with content := m } } := by
  rw [file_genStats_bytes hd, hne, hbin, hnl, Except.ok_bind, hn]
  rfl

theorem file_genStats_cases {env : Env} {cfg : Config} {f f' : FileSec} (h : f.genStats env cfg = .ok f') :
    f' = f ∨ ∃ diff nl r m, f.diff.content = .bytes diff ∧ diff.isEmpty = false ∧
      isBinary f = false ∧
      statsNewline env cfg f diff = .ok nl ∧ nl.isEmpty = false ∧
      Hunks.parse (splitLines diff nl false) true = .ok r ∧
      mergeStats f.metaSec.content (C13.fileStats r.deletes r.inserts) = .ok m ∧
      f' = { f with metaSec := { f.metaSec with content := m } } := by
  by_cases hx : ∃ diff, f.diff.content = .bytes diff
  · obtain ⟨diff, hc⟩ := hx
    rw [file_genStats_bytes hc] at h
    rcases Except.ite_ok h with e | ⟨he, h⟩
    · exact .inl e
    rcases Except.ite_ok h with e | ⟨hb, h⟩
    · exact .inl e
    obtain ⟨nl, hnl, h⟩ := Except.bind_ok h
    rcases Except.ite_ok h with e | ⟨hn, h⟩
    · exact .inl e
    cases hp : Hunks.parse (splitLines diff nl false) true with
    | malformed n l k =>
      rw [hp] at h
      exact .inl (Except.ok.inj h).symm
    | ok r =>
      rw [hp] at h
      obtain ⟨m, hm, h⟩ := Except.bind_ok h
      cases h
      exact .inr ⟨diff, nl, r, m, hc, he, hb, hnl, hn, hp, hm, rfl⟩
  · rw [file_genStats_other (fun b hb => hx ⟨b, hb⟩)] at h
    exact .inl (Except.ok.inj h).symm

theorem file_genStats_idem {env : Env} {cfg : Config} (f f' : FileSec) (h : f.genStats env cfg = .ok f') :
    f'.genStats env cfg = .ok f' := by
  rcases file_genStats_cases h with rfl | ⟨diff, nl, r, m, hd, hne, hb, hnl, hn, hp, hm, rfl⟩
  · exact h
  · rw [file_genStats_run (f := { f with metaSec := { f.metaSec with content := m } }) hd hne hb hnl hn, hp]
    exact (congrArg (· >>= _) (mergeStats_idem (fileStats_nodup _ _) hm)).trans rfl

theorem foldlM_sum {α : Type} (g : α → Except StatErr Int) (l : List α) (a : Int) :
    l.foldlM (fun a f => do pure (a + (← g f))) a = (fun vs => a + vs.sum) <$> l.mapM g := by
  induction l generalizing a with
  | nil => simp
  | cons x xs ih =>
    rw [List.foldlM_cons, List.mapM_cons]
    cases hx : g x with
    | error e => rfl
    | ok v =>
      simp only [Except.ok_bind, ih]
      cases xs.mapM g with
      | error e => rfl
      | ok vs => simp [Int.add_assoc]

theorem statOf_merge {mv : PyVal} {stats : List (Text × Json)} (hs : (stats.map (·.1)).Nodup)
    {m : PyVal} (h : mergeStats mv stats = .ok m) {k : Text} {n : Int} (hp : (k, Json.int n) ∈ stats) :
    statOf m k = .ok n := by
  obtain ⟨ml, st, _, rfl, hh, _⟩ := mergeStats_ok hs h
  simp only [statOf, objGet_objSet, if_true, objGet_of_holds (hh _ hp)]

/-- the figures `generate_stats` computes for a change -/
def changeFigures (del files ins ch : Int) : List (Text × Json) :=
  [(tx b!"deletions", .int del), (tx b!"files", .int files), (tx b!"insertions", .int ins),
   (tx b!"lines changed", .int ch)]

theorem changeFigures_nodup (a b c d : Int) : ((changeFigures a b c d).map (·.1)).Nodup := by
  simp only [changeFigures, List.map_cons, List.map_nil]
  decide

/-- the accumulating loop of `generate_stats` over the children, for one figure -/
abbrev sumOver {χ : Type} (metaOf : χ → PyVal) (kids : List χ) (k : Text) : Except StatErr Int :=
  kids.foldlM (fun a c => do pure (a + (← statOf (metaOf c) k))) (0 : Int)

theorem statOf_sum {χ : Type} {metaOf : χ → PyVal} {kids : List χ} {k : Text} {s : Int}
    (hsum : sumOver metaOf kids k = .ok s)
    {own m : PyVal} {stats : List (Text × Json)} (hs : (stats.map (·.1)).Nodup)
    (hm : mergeStats own stats = .ok m) (hk : (k, Json.int s) ∈ stats) :
    ∃ vs, kids.mapM (fun c => statOf (metaOf c) k) = .ok vs ∧ statOf m k = .ok vs.sum := by
  rw [sumOver, foldlM_sum] at hsum
  obtain ⟨vs, hvs, rfl⟩ := map_ok hsum
  exact ⟨vs, hvs, by rw [statOf_merge hs hm hk, Int.zero_add]⟩

theorem change_genStats_ok {env : Env} {cfg : Config} {c c' : ChangeSec} (h : c.genStats env cfg = .ok c') :
    ∃ files ins del ch m, c.files.mapM (FileSec.genStats env cfg) = .ok files ∧
      sumOver (·.metaSec.content) files (tx b!"insertions") = .ok ins ∧
      sumOver (·.metaSec.content) files (tx b!"deletions") = .ok del ∧
      sumOver (·.metaSec.content) files (tx b!"lines changed") = .ok ch ∧
      mergeStats c.metaSec.content (changeFigures del files.length ins ch) = .ok m ∧
      c' = { c with files := files, metaSec := { c.metaSec with content := m } } := by
  obtain ⟨files, h1, h⟩ := Except.bind_ok h
  obtain ⟨ins, h2, h⟩ := Except.bind_ok h
  obtain ⟨del, h3, h⟩ := Except.bind_ok h
  obtain ⟨ch, h4, h⟩ := Except.bind_ok h
  obtain ⟨m, h5, h⟩ := Except.bind_ok h
  cases h
  exact ⟨files, ins, del, ch, m, h1, h2, h3, h4, h5, rfl⟩

theorem change_genStats_idem {env : Env} {cfg : Config} (c c' : ChangeSec) (h : c.genStats env cfg = .ok c') :
    c'.genStats env cfg = .ok c' := by
  obtain ⟨files, ins, del, ch, m, h1, h2, h3, h4, h5, rfl⟩ := change_genStats_ok h
  unfold ChangeSec.genStats
  dsimp only [sumOver] at h2 h3 h4 ⊢
  rw [Except.mapM_fixed file_genStats_idem h1, Except.ok_bind, h2, Except.ok_bind, h3, Except.ok_bind, h4, Except.ok_bind]
  exact (congrArg (· >>= _) (mergeStats_idem (changeFigures_nodup _ _ _ _) h5)).trans rfl

/-- the figures `generate_stats` computes for the whole tree -/
def treeFigures (changes del files ins ch : Int) : List (Text × Json) :=
  [(tx b!"changes", .int changes), (tx b!"deletions", .int del), (tx b!"files", .int files),
   (tx b!"insertions", .int ins), (tx b!"lines changed", .int ch)]

theorem treeFigures_nodup (a b c d e : Int) : ((treeFigures a b c d e).map (·.1)).Nodup := by
  simp only [treeFigures, List.map_cons, List.map_nil]
  decide

theorem tree_genStats_ok {env : Env} {cfg : Config} {t t' : Tree} (h : t.genStats env cfg = .ok t') :
    ∃ changes del files ins ch m, t.changes.mapM (ChangeSec.genStats env cfg) = .ok changes ∧
      sumOver (·.metaSec.content) changes (tx b!"deletions") = .ok del ∧
      sumOver (·.metaSec.content) changes (tx b!"files") = .ok files ∧
      sumOver (·.metaSec.content) changes (tx b!"insertions") = .ok ins ∧
      sumOver (·.metaSec.content) changes (tx b!"lines changed") = .ok ch ∧
      mergeStats t.metaSec.content (treeFigures changes.length del files ins ch) = .ok m ∧
      t' = { t with changes := changes, metaSec := { t.metaSec with content := m } } := by
  obtain ⟨changes, h1, h⟩ := Except.bind_ok h
  obtain ⟨del, h2, h⟩ := Except.bind_ok h
  obtain ⟨files, h3, h⟩ := Except.bind_ok h
  obtain ⟨ins, h4, h⟩ := Except.bind_ok h
  obtain ⟨ch, h5, h⟩ := Except.bind_ok h
  obtain ⟨m, h6, h⟩ := Except.bind_ok h
  cases h
  exact ⟨changes, del, files, ins, ch, m, h1, h2, h3, h4, h5, h6, rfl⟩

end Diffx.Dom
