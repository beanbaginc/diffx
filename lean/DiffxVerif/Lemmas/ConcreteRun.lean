import DiffxVerif.Lemmas.Faithful
import DiffxVerif.Lemmas.CodecProofs
/-!
# The whole-run round trip for the concrete codecs: laws derived from acceptance

`Properties/C01Run.lean` proves the whole-run round trip under `ProgramLaws` of `Lemmas/RunRoundTrip.lean`
(pointwise laws about the environment), `Lemmas/Faithful.lean` identifies the contents under
`ProgramFaithfulFrom`.  Here the environment is `Codecs.env dumps loadsText loadsBytes` (the
executable codecs of `Model/Codecs.lean`, JSON still a parameter) and every one of these laws is
*derived from the fact that the writer accepted the program*.  The only hypothesis left about the
environment is `JsonLaws Dom`, assumed for the dicts of a domain `Dom` in which the `dict`
arguments of the program lie (`DictsIn Dom calls`).

A metadata section carries no `line_endings` option, so the reader guesses.  The dump of a dict of
the domain is ASCII text without CR; such a text has no byte 13 in any of the encodings
(`encChars_no13`), hence `guess_line_endings` on the encoded bytes says "unix" (`guess_unix`), as the
writer's did on the text.  With the laws in hand, the contents and section ids of the expected
records are functions of the calls' arguments only (`contentOfCall`, `secIds`).
-/
namespace Diffx

/-- **What is assumed of `json`** — the only hypothesis about the environment that the concrete
whole-run theorem keeps.  All three fields speak about the text `dumps` returns for a *dict*
(`Json.obj`), the only values `DiffXWriter.write_meta` dumps, **and only for the dicts in `Dom`**:
nothing is assumed about a dict outside `Dom`.  The model's `Json` is plain data and holds values
of which the laws are false for CPython, or which present no Python dict at all: a string in which
a lone high surrogate is directly followed by a lone low surrogate is dumped as `\uXXXX\uXXXX` and
loaded back as *one* astral character; an item list with duplicate or unsorted keys is no dict as
the harness presents one.  For CPython's
`json.dumps(obj, indent=4, separators=(',', ': '), sort_keys=True)` / `json.loads` the domain is
`Dom := Json.Representable isRepr` (Model/JsonDom.lean: keys strictly increasing, no surrogate
pair in a string, float lexemes the `repr` of a float); on it:

* `ascii`: `ensure_ascii` is left at its default `True`, every non-ASCII code point of a key or
  string value is written as a `\uXXXX` escape; the structural characters, digits, `true`,
  `false`, `null`, `NaN`, `Infinity` are ASCII.
* `noCR`: the only line breaks `dumps` emits are the `'\n'` of the `indent=4` layout; a CR
  inside a key or string value is written as the two characters `\r` (control characters are
  always escaped).
* `loads`: `json.loads` ignores trailing whitespace, and the document `dumps` produced for a dict
  (string keys, JSON values) parses back to an equal dict.  The text is given to `loads` with the
  final `'\n'` the writer appends (`normText text false` is `text ++ "\n"` unless the text already
  ends with `'\n'`; CPython's output for a dict ends with `'}'`).  Equality is that of the model's
  `Json` (a dict is its list of items): with `sort_keys=True` it holds because the harness
  presents a dict by its items in sorted key order (`Dom`), Python's `==` on dicts being
  order-blind.

Nothing is assumed of `loadsBytes`, nor of `dumps` / `loads` on other values.  The theorems that
take `JsonLaws Dom …` ask that the dicts of the program / tree lie in `Dom` (`DictsIn`,
`TreeDictsIn`). -/
structure JsonLaws (Dom : Json → Prop) (dumps : Json → EnvR Text) (loadsText : Text → EnvR Json) : Prop where
  ascii : ∀ l text, Dom (.obj l) → dumps (.obj l) = .ok text → ∀ ch ∈ text, ch < 128
  noCR : ∀ l text, Dom (.obj l) → dumps (.obj l) = .ok text → 13 ∉ text
  loads : ∀ l text, Dom (.obj l) → dumps (.obj l) = .ok text → loadsText (normText text false) = .ok (.obj l)

theorem JsonLaws.mono {Dom Dom' : Json → Prop} {dumps : Json → EnvR Text} {loadsText : Text → EnvR Json}
    (hsub : ∀ j, Dom' j → Dom j) (h : JsonLaws Dom dumps loadsText) : JsonLaws Dom' dumps loadsText :=
  ⟨fun l t hd => h.ascii l t (hsub _ hd), fun l t hd => h.noCR l t (hsub _ hd),
   fun l t hd => h.loads l t (hsub _ hd)⟩

end Diffx

namespace Diffx.Codecs
open Diffx Diffx.Writer Diffx.RunRT

/-- `'ascii'`, the codec of the newline of a diff section without `encoding` -/
abbrev asciiName : Name := Text.ofAscii b!"ascii"

/-- **the section ids a program writes**, from the nesting level `lvl` on (1 after the
constructor): `new_change` opens level 2, `new_file` level 3, a content section has the dots of
the level it is written at -/
def secIds : Nat → List Call → List SecId
  | _, [] => []
  | _, .newChange _ :: cs => ⟨1, .change⟩ :: secIds 2 cs
  | _, .newFile _ :: cs => ⟨2, .file⟩ :: secIds 3 cs
  | lvl, .preamble .. :: cs => ⟨lvl, .preamble⟩ :: secIds lvl cs
  | lvl, .metadata .. :: cs => ⟨lvl, .metadata⟩ :: secIds lvl cs
  | lvl, .diff .. :: cs => ⟨lvl, .diff⟩ :: secIds lvl cs

theorem secIds_cons (st : St) (c : Call) (cs : List Call) (h : 1 ≤ st.level) :
    secIds st.level (c :: cs) = secOf st c :: secIds (depth (secOf st c) + 1) cs := by
  have e : ∀ n : SecName, n ≠ .diffx → n ≠ .change → n ≠ .file → depth ⟨st.level, n⟩ + 1 = st.level := by
    intro n h1 h2 h3
    simp only [depth, h1, h2, h3, or_self, if_false]
    omega
  cases c
  · rfl
  · rfl
  all_goals
    simp only [secIds, secOf]
    rw [e _ (by decide) (by decide) (by decide)]

theorem expectedFrom_secs (env : Env) (cfg : Config) : ∀ (cs : List Call) (st : St) (line : Nat)
    (Ls : ProgramLawsFrom env cfg st cs), AllOk env cfg st cs → LevelInv st →
    (expectedFrom env cfg st line cs Ls).map (·.sec) = secIds st.level cs
  | [], _, _, _, _, _ => rfl
  | c :: cs, st, line, (L, Ls), hok, hinv => by
    obtain ⟨b, -, hpre, -, -, hstep⟩ := step_accepted hok.1
    have hinv' := step_levelInv env cfg st c hinv
    have ih := expectedFrom_secs env cfg cs _ (line + (expectedOne env cfg st line c L).2) Ls hok.2 hinv'
    -- the level after the call, read off the invariant
    have hlvl : (step env cfg st c).1.level = depth (secOf st c) + 1 := by
      obtain ⟨p, hp, hl⟩ := hinv'
      rw [hstep] at hp
      cases hp
      simp only [St.level, hl]
      omega
    obtain ⟨p, -, hl⟩ := hinv
    simp only [expectedFrom, List.map_cons, ih, expectedOne_sec env cfg st line c L hpre, hlvl]
    exact (secIds_cons st c cs (by simp only [St.level, hl]; omega)).symm

theorem expectedRecords_secs (env : Env) (cfg : Config) (enc : Name) (calls : List Call)
    (hok : ∀ r ∈ (run env cfg (some enc) (Text.ofAscii b!"1.0") calls).2, r = .ok)
    (laws : ProgramLaws env cfg enc calls) :
    (expectedRecords env cfg enc calls laws).map (·.sec) = SecId.main :: secIds 1 calls := by
  obtain ⟨hinit, hall, -⟩ := run_ok hok
  have hinv := init_levelInv (some enc) (Text.ofAscii b!"1.0") hinit
  have hl : (init (some enc) (Text.ofAscii b!"1.0")).1.level = 1 := by
    obtain ⟨header, -, hi⟩ := Writer.init_ok_inv hinit
    rw [hi]
    rfl
  unfold expectedRecords
  rw [List.map_cons, expectedFrom_secs _ _ calls _ 1 laws.calls hall hinv, hl]
  rfl

section Env
variable {Dom : Json → Prop} {dj : Json → EnvR Text} {lt : Text → EnvR Json} {lb : Bytes → EnvR Json}

/-- an unknown name raises `LookupError` -/
theorem lookup_of_encode {e : Name} {t : Text} {b : Bytes} (h : (env dj lt lb).encode e t = .ok b) :
    ∃ c, lookup e = some c := by
  cases hc : lookup e with
  | some c => exact ⟨c, rfl⟩
  | none =>
    simp only [env, hc] at h
    cases h

theorem Codec.nl_13 : ∀ c : Codec, (13 : UInt8) ∉ c.nl false ∧ (13 : UInt8) ∈ c.nl true ∧ (13 : UInt8) ∉ c.bom :=
  Codec.forall_all (by decide +kernel)

theorem nl_ite (c : Codec) (dos : Bool) : (if dos = true then c.nl true else c.nl false) = c.nl dos := by
  cases dos <;> rfl

theorem lookup_ascii : lookup asciiName = some .ascii := by decide

theorem prepared_str {st : St} {t : Text} {indent : Option Int} {le : Option Text} {enc : Option Name}
    {data : Bytes} {leOut : Text}
    (hp : prepareContent (env dj lt lb) cfg st (.str t) indent le enc true = .ok (data, leOut)) :
    ∃ (eb : Bytes) (c : Codec) (plain : Bytes), lookup (Text.ofAscii eb) = some c ∧
      (if truthy enc then enc else st.curEncoding) = some (Text.ofAscii eb) ∧
      prepareContent (env dj lt lb) cfg st (.str t) none le enc true = .ok (plain, leOut) ∧
      (indent = none → data = plain) := by
  obtain ⟨nl, d, h1, h2⟩ := prepareContent_ok_iff.mp hp
  obtain ⟨e, raw, he, -, -, -, -, hde⟩ := prepCore_str_inv h1
  obtain ⟨c, hc⟩ := lookup_of_encode hde
  obtain ⟨eb, rfl⟩ : ∃ eb, e = Text.ofAscii eb := ⟨e.toAscii, (lookup_nameOk e c hc).ascii⟩
  refine ⟨eb, c, normBytes d nl, hc, he,
    prepareContent_ok_iff.mpr ⟨nl, d, h1, rfl⟩, ?_⟩
  intro hi
  subst hi
  rw [prepFinish_none] at h2
  exact (Except.ok.inj h2).symm

def textLawsOf {st : St} {t : Text} {le : Option Text} {enc : Option Name} {leOut : Text} {eb : Bytes} {c : Codec}
    (hc : lookup (Text.ofAscii eb) = some c)
    (heff : (if truthy enc then enc else st.curEncoding) = some (Text.ofAscii eb)) {plain : Bytes}
    (hplain : prepareContent (env dj lt lb) cfg st (.str t) none le enc true = .ok (plain, leOut)) :
    TextLaws (env dj lt lb) cfg st t le enc leOut :=
  TextLaws.ofFaithful _ _ st t le enc leOut eb heff (faithful dj lt lb _ c hc) (newlines dj lt lb _ c hc) plain hplain

theorem encChars_no13 {c : Codec} {t : Text} {a : Bytes} (h : encChars c.encChar t = some a)
    (hasc : ∀ ch ∈ t, ch < 128) (h13 : 13 ∉ t) : (13 : UInt8) ∉ a := by
  rw [c.encChars_ascii t hasc] at h
  cases h
  intro hm
  obtain ⟨ch, hch, hx⟩ := List.mem_flatMap.mp hm
  rcases c.mem_asciiBytes _ _ hx with h0 | h0
  · exact absurd h0 (by decide)
  · have e : 13 = ch := by
      have := congrArg UInt8.toNat h0
      rwa [byte_toNat ch (by have := hasc ch hch; omega)] at this
    exact h13 (e ▸ hch)

theorem guessText_noCR (t : Text) (h13 : 13 ∉ t) : (guessText t).1 = false := by
  unfold guessText
  split
  · rename_i i _
    split
    · rename_i he
      exfalso
      apply h13
      have hs : [13, 10] <:+ t.take (i + 1) := endsWith_iff_suffix.mp he
      exact List.mem_of_mem_take (hs.subset (by simp))
    · rfl
  · rfl

/-- the CRLF of each of the codecs contains the byte 13 (`Codec.nl_13`) -/
theorem guess_unix {e : Name} {c : Codec} (he : lookup e = some c) (ln : Nat) {plain : Bytes}
    (h13 : (13 : UInt8) ∉ plain) :
    Reader.guessLineEndings (env dj lt lb) cfg ln plain (some e) = .ok (false, c.nl false) := by
  have hnf : ∀ dos, Reader.newlineFor (env dj lt lb) cfg ln dos (some e) = .ok (c.nl dos) := fun dos =>
    Reader.newlineFor_of ln (env_encode_nl he dos)
      (by rw [Option.getD_some]; exact stripBom_env_nl he dos)
  unfold Reader.guessLineEndings
  rw [hnf false, hnf true]
  simp only [Except.ok_bind]
  cases findSub (c.nl false) plain with
  | none => rfl
  | some i =>
    have : endsWith (plain.take (i + (c.nl false).length)) (c.nl true) = false := by
      cases hh : endsWith (plain.take (i + (c.nl false).length)) (c.nl true) with
      | false => rfl
      | true =>
        exfalso
        apply h13
        have hs := endsWith_iff_suffix.mp hh
        exact List.mem_of_mem_take (hs.subset c.nl_13.2.1)
    simp only [this]
    rfl

theorem mem_normBytes {x : UInt8} {d nl : Bytes} (h : x ∈ normBytes d nl) : x ∈ d ∨ x ∈ nl := by
  unfold normBytes at h
  split at h
  · exact .inl h
  · exact List.mem_append.mp h

theorem plain_no13 {e : Name} {c : Codec} (he : lookup e = some c) {t : Text} {d : Bytes}
    (hd : (env dj lt lb).encode e t = .ok d) (hasc : ∀ ch ∈ t, ch < 128) (h13 : 13 ∉ t) :
    (13 : UInt8) ∉ normBytes d (c.nl false) := by
  obtain ⟨a, ha, rfl⟩ := (env_encode_ok he).mp hd
  intro hm
  rcases mem_normBytes hm with hm | hm
  · rcases List.mem_append.mp hm with hm | hm
    · exact c.nl_13.2.2 hm
    · exact encChars_no13 ha hasc h13 hm
  · exact c.nl_13.1 hm

/-- the codec of the newline of a diff section: its own `encoding`, else `'ascii'` -/
def diffCodec (enc : Option Name) : Codec := (lookup (enc.getD asciiName)).getD .ascii

/-- the line-ending kind of a diff section: the declared one, else the one detected on the bytes
with the codec's BOM-free LF / CRLF (`guess_line_endings(content, encoding)`: the CRLF when the
bytes up to and including the first LF end with it) -/
def diffDos (c : Codec) (le : Option Text) (b : Bytes) : Bool :=
  match le with
  | some l => l == Text.ofAscii b!"dos"
  | none =>
    match findSub (c.nl false) b with
    | some i => endsWith (b.take (i + (c.nl false).length)) (c.nl true)
    | none => false

/-- the newline of a diff section, from the arguments of `write_diff` -/
def diffNl (enc : Option Name) (le : Option Text) (b : Bytes) : Bytes :=
  (diffCodec enc).nl (diffDos (diffCodec enc) le b)

/-- `strip_bom(x, encoding)` with the section's own `encoding` argument (for `None` nothing is
registered, and the codec is `ascii`) on an encoded newline, with or without its mark -/
theorem stripBom_own {enc : Option Name} {c : Codec} (hc : lookup (enc.getD asciiName) = some c) {dos : Bool}
    {x : Bytes} (hx : x = c.nl dos ∨ x = c.bom ++ c.nl dos) :
    stripBom (env dj lt lb) cfg x enc = .ok (c.nl dos) := by
  cases enc with
  | none =>
    cases Option.some.inj (lookup_ascii.symm.trans hc)
    rcases hx with rfl | rfl <;> rfl
  | some n =>
    rw [stripBom_env (e := n) hc]
    rcases hx with rfl | rfl
    · rw [(c.nl_facts dos).2.2.1]
    · rw [(c.nl_facts dos).2.1]

theorem nlEnc_getD {enc : Option Name} (he : EncOk enc) :
    (if truthy enc = true then enc.getD [] else Text.ofAscii b!"ascii") = enc.getD asciiName := by
  cases enc with
  | none => rfl
  | some n => simp [(he n rfl).truthy]

/-- **what `_prepare_content` uses for a diff**: the newline is the BOM-free newline of the codec
`encoding or 'ascii'` — although the writer strips the BOM twice when it guesses, and strips the BOM
registered for `None` (none) when there is no `encoding` -/
theorem diff_prepared {st : St} {b : Bytes} {le : Option Text} {enc : Option Name} (he : EncOk enc)
    {nl : Bytes} {leOut : Text}
    (hw : PreparedWith (env dj lt lb) cfg st (.bytes b) le enc false nl leOut) :
    ∃ c, lookup (enc.getD asciiName) = some c ∧ leOut = leKind (diffDos c le b) ∧
      nl = c.nl (diffDos c le b) := by
  unfold PreparedWith at hw
  dsimp only at hw
  simp only [Bool.and_false, Bool.false_eq_true, if_false] at hw
  rw [nlEnc_getD he] at hw
  obtain ⟨dos, h1, h5, h3⟩ := hw
  cases le with
  | none =>
    dsimp only at h3
    obtain ⟨rawU, rawD, u, d, a1, a2, a3, a4, a5, a6⟩ := h3
    obtain ⟨c, hc⟩ := lookup_of_encode a1
    have a1' : (env dj lt lb).encode (enc.getD asciiName) (nlText false) = .ok rawU := a1
    have a3' : (env dj lt lb).encode (enc.getD asciiName) (nlText true) = .ok rawD := a3
    rw [env_encode_nl hc] at a1' a3'
    cases a1'
    cases a3'
    rw [stripBom_env_nl hc] at a2 a4
    cases a2
    cases a4
    cases (a5 : dos = diffDos c none b)
    rw [nl_ite, stripBom_own hc (.inl rfl)] at a6
    exact ⟨c, hc, h1, (EnvR.ok.inj a6).symm⟩
  | some l =>
    dsimp only at h3
    obtain ⟨raw, a1, a2⟩ := h3
    obtain ⟨c, hc⟩ := lookup_of_encode a1
    rw [env_encode_nl hc] at a1
    cases a1
    have hd : dos = diffDos c (some l) b := by
      show dos = (l == Text.ofAscii b!"dos")
      rw [h5 l rfl, h1, leKind_beq_dos]
    cases hd
    rw [stripBom_own hc (.inr rfl)] at a2
    exact ⟨c, hc, h1, (EnvR.ok.inj a2).symm⟩

theorem encOk_henc (enc : Option Name) (he : EncOk enc) : enc = (enc.map Text.toAscii).map Text.ofAscii := by
  cases enc with
  | none => rfl
  | some n => simp only [Option.map_some]; rw [← (he n rfl).ascii]

/-- `Arg.dict j` stands for a Python `dict`: `j` is a JSON object.  (The type `Arg` allows
`.dict (.int 1)`; the model writer would dump it and the reader reject what `json.loads` gives back.
No Python program can pass such an argument as a `dict`.) -/
def dictArgOk : Call → Bool
  | .metadata (.dict j) _ _ => j.isObj
  | _ => true

/-- every `dict` argument of the program is a JSON object -/
def DictArgs (calls : List Call) : Prop := ∀ c ∈ calls, dictArgOk c = true

instance (calls : List Call) : Decidable (DictArgs calls) := by
  unfold DictArgs
  infer_instance

theorem isObj_inv (j : Json) (h : j.isObj = true) : ∃ l, j = .obj l := by
  cases j with
  | obj l => exact ⟨l, rfl⟩
  | _ => cases h

/-- the `dict` argument of a `write_meta` call lies in `Dom` (`DictsIn`, call by call) -/
def dictArgIn (Dom : Json → Prop) : Call → Prop
  | .metadata (.dict j) _ _ => Dom j
  | _ => True

/-- the dicts the program hands to `write_meta` lie in `Dom`, the domain `JsonLaws` speaks of -/
def DictsIn (Dom : Json → Prop) (calls : List Call) : Prop :=
  ∀ j enc fmt, Call.metadata (.dict j) enc fmt ∈ calls → Dom j

theorem dictsIn_iff (Dom : Json → Prop) (calls : List Call) :
    DictsIn Dom calls ↔ ∀ c ∈ calls, dictArgIn Dom c := by
  constructor
  · intro h c hc
    unfold dictArgIn
    split
    · exact h _ _ _ hc
    · trivial
  · intro h j enc fmt hm
    exact h _ hm

theorem dictsIn_nil (Dom : Json → Prop) : DictsIn Dom [] := fun _ _ _ h => nomatch h

theorem DictsIn.head {Dom : Json → Prop} {c : Call} {cs : List Call} (h : DictsIn Dom (c :: cs)) :
    dictArgIn Dom c := (dictsIn_iff Dom _).mp h c List.mem_cons_self

theorem DictsIn.tail {Dom : Json → Prop} {c : Call} {cs : List Call} (h : DictsIn Dom (c :: cs)) :
    DictsIn Dom cs := fun j enc fmt hm => h j enc fmt (List.mem_cons_of_mem _ hm)

theorem dictsIn_append {Dom : Json → Prop} (xs ys : List Call) (hx : DictsIn Dom xs) (hy : DictsIn Dom ys) :
    DictsIn Dom (xs ++ ys) := by
  intro j enc fmt hm
  rcases List.mem_append.mp hm with h | h
  · exact hx j enc fmt h
  · exact hy j enc fmt h

theorem DictsIn.left {Dom : Json → Prop} {xs ys : List Call} (h : DictsIn Dom (xs ++ ys)) : DictsIn Dom xs :=
  fun j enc fmt hm => h j enc fmt (List.mem_append_left _ hm)

theorem DictsIn.right {Dom : Json → Prop} {xs ys : List Call} (h : DictsIn Dom (xs ++ ys)) : DictsIn Dom ys :=
  fun j enc fmt hm => h j enc fmt (List.mem_append_right _ hm)

theorem DictsIn.mono {Dom Dom' : Json → Prop} (hsub : ∀ j, Dom j → Dom' j) {calls : List Call}
    (h : DictsIn Dom calls) : DictsIn Dom' calls := fun j enc fmt hm => hsub j (h j enc fmt hm)

theorem dictsIn_true (calls : List Call) : DictsIn (fun _ => True) calls := fun _ _ _ _ => trivial

theorem metaLaws_exist (hjson : JsonLaws Dom dj lt) {st : St} {l : List (Text × Json)} {enc : Option Name}
    (hencOk : EncOk enc) (hdom : Dom (.obj l)) {text : Text} (hd : dj (.obj l) = .ok text) {data : Bytes}
    {leOut : Text} (hprep : prepareContent (env dj lt lb) cfg st (.str text) none none enc true = .ok (data, leOut))
    (hsz : data.length ≤ Reader.maxRead) : Nonempty (MetaLaws (env dj lt lb) cfg st (.obj l) enc) := by
  obtain ⟨eb, c, plain, hc, heff, hplain, hdp⟩ := prepared_str hprep
  obtain rfl := hdp rfl
  have hasc := hjson.ascii l text hdom hd
  have h13 := hjson.noCR l text hdom hd
  have hdos : textDos none text = false := guessText_noCR text h13
  obtain ⟨-, ⟨d, hde, hpd⟩, -, -⟩ := ofFaithful_facts (env dj lt lb) cfg st text none enc leOut _ heff
    (faithful dj lt lb _ c hc) (newlines dj lt lb _ c hc) data hplain
  rw [hdos, nlBytes_eq hc] at hpd
  have h13p : (13 : UInt8) ∉ data := by
    rw [hpd]
    exact plain_no13 hc hde hasc h13
  exact ⟨{ encOk := hencOk, text := text, hdumps := hd, leOut := leOut,
           tl := textLawsOf hc heff hplain,
           hlen := hsz,
           hguess := by
             intro ln
             show Reader.guessLineEndings _ _ ln data (some (Text.ofAscii eb)) =
               .ok (textDos none text, nlBytes _ _ (Text.ofAscii eb) (textDos none text))
             rw [hdos, nlBytes_eq hc]
             exact guess_unix hc ln h13p,
           parsed := .obj l,
           hloads := by
             show lt (normText text (textDos none text)) = .ok (.obj l)
             rw [hdos]
             exact hjson.loads l text hdom hd,
           hobj := rfl }⟩

theorem callLaws_exist (hjson : JsonLaws Dom dj lt) (st : St) (c : Call)
    (hok : (step (env dj lt lb) cfg st c).2 = .ok)
    (hwf : dictArgOk c = true) (hdom : dictArgIn Dom c)
    (hsz : (step (env dj lt lb) cfg st c).1.out.length ≤ Reader.maxRead) :
    Nonempty (CallLaws (env dj lt lb) cfg st c) := by
  have hencOk : EncOk (callEncoding c) := encOk_of_accepted hok
  obtain ⟨b, -, hpre, -, hpl, hstep⟩ := step_accepted hok
  rw [hstep] at hsz
  simp only [List.length_append] at hsz
  rcases pre_none_cases hpre with ⟨enc, rfl⟩ | ⟨enc, rfl⟩ | ⟨t, enc, indent, le, mime, rfl⟩ | ⟨j, enc, rfl⟩ |
    ⟨d, dtype, enc, le, rfl⟩
  · exact ⟨PLift.up hencOk⟩
  · exact ⟨PLift.up hencOk⟩
  · obtain ⟨data, leOut, header, hprep, -, rfl, -⟩ :=
      contentPayload_ok_iff.mp hpl
    obtain ⟨eb, c, plain, hc, heff, hplain, -⟩ := prepared_str hprep
    simp only [List.length_append] at hsz
    exact ⟨({ encOk := hencOk,
              indentOk := by
                intro i hi
                subst hi
                exact (pre_none_inv hpre).2.2 i rfl,
              data := data, leOut := leOut, hprep := hprep, hlen := by omega,
              text := textLawsOf hc heff hplain } :
            PreambleLaws (env dj lt lb) cfg st t enc indent le)⟩
  · obtain ⟨l, rfl⟩ := isObj_inv j hwf
    have hdom : Dom (.obj l) := hdom
    simp only [payload] at hpl
    split at hpl
    · rename_i text hdl
      obtain ⟨data, leOut, header, hprep, -, rfl, -⟩ :=
        contentPayload_ok_iff.mp hpl
      simp only [List.length_append] at hsz
      exact metaLaws_exist hjson hencOk hdom (liftEnv_ok hdl) hprep (by omega)
    · cases hpl
  · obtain ⟨data, leOut, header, hprep, -, rfl, -⟩ :=
      contentPayload_ok_iff.mp hpl
    obtain ⟨nl, d', h1, -⟩ := prepareContent_ok_iff.mp hprep
    obtain ⟨hw, -⟩ := prepCore_ok h1
    obtain ⟨c, hc, hle, rfl⟩ := diff_prepared hencOk hw
    simp only [List.length_append] at hsz
    exact ⟨({ encOk := hencOk, data := data, leOut := leOut, hprep := hprep, hlen := by omega,
              dl := { encName := enc.map Text.toAscii, henc := encOk_henc enc hencOk,
                      dos := diffDos c le d, hle := hle, nl := c.nl (diffDos c le d), hw := hw,
                      rawR := c.bom ++ c.nl (diffDos c le d),
                      hencR := env_encode_nl hc _,
                      hbomR := stripBom_env_nl hc _,
                      hne := (c.nl_facts _).2.2.2 } } :
            DiffCallLaws (env dj lt lb) cfg st d enc le)⟩

theorem programLaws_exist (hjson : JsonLaws Dom dj lt) : ∀ (cs : List Call) (st : St),
    AllOk (env dj lt lb) cfg st cs → DictArgs cs → DictsIn Dom cs →
    (runFrom (env dj lt lb) cfg st cs).out.length ≤ Reader.maxRead →
    Nonempty (ProgramLawsFrom (env dj lt lb) cfg st cs)
  | [], _, _, _, _, _ => ⟨PUnit.unit⟩
  | c :: cs, st, hok, hwf, hdom, hsz => by
    have hpre : (step (env dj lt lb) cfg st c).1.out <+: (runFrom (env dj lt lb) cfg st (c :: cs)).out :=
      runFrom_prefix _ cs
    obtain ⟨L⟩ := callLaws_exist hjson st c hok.1
      (hwf c List.mem_cons_self) hdom.head (Nat.le_trans hpre.length_le hsz)
    obtain ⟨Ls⟩ := programLaws_exist hjson cs _ hok.2 (fun c' h => hwf c' (List.mem_cons_of_mem _ h)) hdom.tail hsz
    exact ⟨(L, Ls)⟩

/-- **the content a reader must return for a call — a function of the call's arguments only**:
the text with its final line ending (declared, or detected on its first line) appended when
missing; the dict; the diff bytes with the section's newline (`diffNl`: of the codec
`encoding or 'ascii'`, of the declared kind or the kind detected on the bytes) appended when
missing.  No law, no writer state, no environment. -/
def contentOfCall : Call → Reader.Content
  | .preamble (.str t) _ _ le _ => .text (normText t (textDos le t))
  | .metadata (.dict j) _ _ => .metadata j
  | .diff (.bytes b) _ enc le => .diff (normBytes b (diffNl enc le b))
  | _ => .container

theorem callFaithful_any (hjson : JsonLaws Dom dj lt) (st : St) (c : Call)
    (hwf : dictArgOk c = true) (hdom : dictArgIn Dom c)
    (L : CallLaws (env dj lt lb) cfg st c) : CallFaithful (env dj lt lb) cfg st c L := by
  -- the encoding of any `TextLaws` of this environment is one of the codecs
  have hF : ∀ {st t le enc leOut} (T : TextLaws (env dj lt lb) cfg st t le enc leOut),
      CodecFaithful (env dj lt lb) cfg (Text.ofAscii T.encName) := by
    intro st t le enc leOut T
    obtain ⟨c, hc⟩ := lookup_of_encode T.henc
    exact faithful dj lt lb _ c hc
  unfold CallFaithful
  split
  · exact hF _
  · rename_i j _ _ L
    obtain ⟨l, rfl⟩ := isObj_inv j hwf
    have hd : dj (.obj l) = .ok (MetaLaws.text L) := MetaLaws.hdumps L
    refine ⟨hF _, ?_⟩
    rw [guessText_noCR _ (hjson.noCR l _ hdom hd)]
    exact hjson.loads l _ hdom hd
  · trivial

theorem programFaithful_any (hjson : JsonLaws Dom dj lt) : ∀ (cs : List Call) (st : St), DictArgs cs →
    DictsIn Dom cs →
    ∀ Ls : ProgramLawsFrom (env dj lt lb) cfg st cs, ProgramFaithfulFrom (env dj lt lb) cfg st cs Ls
  | [], _, _, _, _ => trivial
  | c :: cs, st, hwf, hdom, (L, Ls) =>
    ⟨callFaithful_any hjson st c (hwf c List.mem_cons_self) hdom.head L,
     programFaithful_any hjson cs _ (fun c' h => hwf c' (List.mem_cons_of_mem _ h)) hdom.tail Ls⟩

theorem written_eq_any (st : St) (c : Call) (L : CallLaws (env dj lt lb) cfg st c) :
    writtenContent (env dj lt lb) cfg st c L = contentOfCall c := by
  cases c with
  | newChange enc => rfl
  | newFile enc => rfl
  | preamble text enc indent le mime => cases text <;> rfl
  | metadata m enc fmt => cases m <;> rfl
  | diff content dtype enc le =>
    cases content with
    | bytes b =>
      show Reader.Content.diff (normBytes b (DiffCallLaws.dl L).nl) = .diff (normBytes b (diffNl enc le b))
      obtain ⟨c, hc, -, hnl⟩ := diff_prepared (DiffCallLaws.encOk L) (DiffCallLaws.dl L).hw
      rw [hnl]
      unfold diffNl diffCodec
      rw [hc]
      rfl
    | str _ => rfl
    | dict _ => rfl
    | other => rfl

theorem writtenFrom_eq : ∀ (cs : List Call) (st : St) (Ls : ProgramLawsFrom (env dj lt lb) cfg st cs),
    writtenFrom (env dj lt lb) cfg st cs Ls = cs.map contentOfCall
  | [], _, _ => rfl
  | c :: cs, st, (L, Ls) => by
    simp only [writtenFrom, List.map_cons]
    rw [written_eq_any, writtenFrom_eq cs]

/-- **The laws of a program, and their faithfulness, from acceptance**: of the environment only
`JsonLaws Dom` is assumed; `hsize` says that what was written fits `fp.read`. -/
theorem laws_of_accepted (hjson : JsonLaws Dom dj lt) (enc : Name) (calls : List Call)
    (hok : ∀ r ∈ (run (env dj lt lb) cfg (some enc) (Text.ofAscii b!"1.0") calls).2, r = .ok)
    (hwf : DictArgs calls) (hdom : DictsIn Dom calls)
    (hsize : (run (env dj lt lb) cfg (some enc) (Text.ofAscii b!"1.0") calls).1.out.length ≤ Reader.maxRead) :
    ∃ laws : ProgramLaws (env dj lt lb) cfg enc calls,
      ProgramFaithfulFrom (env dj lt lb) cfg (init (some enc) (Text.ofAscii b!"1.0")).1 calls laws.calls := by
  obtain ⟨hinit, hall, hrun⟩ := run_ok hok
  rw [hrun] at hsize
  obtain ⟨Ls⟩ := programLaws_exist hjson calls _ hall hwf hdom hsize
  exact ⟨⟨(nameOk_iff_not_refused enc).2 (init_ok_enc hinit), Ls⟩,
    programFaithful_any hjson calls _ hwf hdom Ls⟩

end Env

end Diffx.Codecs
