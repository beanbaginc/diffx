import DiffxVerif.Model.Dom
import DiffxVerif.Lemmas.Order
import DiffxVerif.Lemmas.ReaderTotal
import DiffxVerif.Lemmas.ReaderStep
import DiffxVerif.Lemmas.Assoc
import DiffxVerif.Lemmas.Except
/-!
# The object model (`Model/Dom.lean`)

Equality: the comparison of two `dict`s is `Assoc.all` (`Lemmas/Assoc.lean`), so `__eq__` is reflexive where
keys are distinct and no value is opaque (`PlainTree`) and symmetric where keys are distinct (`WellKeyed`).
The loader: on a content record `loadRecord` is `place` (`loadRecord_text`, `_metadata`, `_diff`); it is inverted
once for success and once for failure; the tree it builds has the shape the section ids describe (`shapeOf`,
`load_shape_from`); its failure `readerOther` cannot happen on the streaming reader's records, because the
reader's `valid` list bounds where the loader stands (`LoadInv`). `TreeOk` says what every loaded tree satisfies
and the model's plain `Tree` does not enforce. The writer: `DomConc.callOf` is the call `contentCall` prepares for a truthy
content, with a name for each argument (`optText`, `indentOf`, `typeOf`, `fmtOf`, `argOf`).
-/
namespace Diffx.Dom
open Diffx

theorem DOpts.get_set_self (o : DOpts) (k : Bytes) (v : PyVal) : (o.set k v).get k = some v := by
  show (Assoc.set o k v).lookup k = _
  rw [Assoc.lookup_set, beq_self_eq_true, if_pos rfl]

theorem DOpts.get_set_ne (o : DOpts) {k k' : Bytes} (v : PyVal) (hne : k' ≠ k) :
    (o.set k v).get k' = o.get k' := by
  show (Assoc.set o k v).lookup k' = _
  rw [Assoc.lookup_set, beq_false_of_ne hne, if_neg Bool.false_ne_true]
  rfl

theorem setOption_cases (p : OptionProp) (o : DOpts) (v : PyVal) :
    (hasType v p.type = false ∧ setOption p o v = .error .optionType) ∨
    (hasType v p.type = true ∧ (∃ cs t, p.choices = some cs ∧ v = .str t ∧ t ∉ cs) ∧
      setOption p o v = .error .optionChoice) ∨
    (hasType v p.type = true ∧ (∀ cs t, p.choices = some cs → v = .str t → t ∈ cs) ∧
      setOption p o v = .ok (o.set p.option v)) := by
  unfold setOption
  cases ht : hasType v p.type with
  | false => exact .inl ⟨rfl, rfl⟩
  | true =>
    refine .inr ?_
    simp only [Bool.not_true, Bool.false_eq_true, if_false, true_and]
    split
    · rename_i cs t hc
      by_cases hm : t ∈ cs
      · rw [if_pos (List.contains_iff_mem.2 hm)]
        exact .inr ⟨fun cs' t' h1 h2 => by rw [hc] at h1; cases h1; cases h2; exact hm, rfl⟩
      · rw [if_neg (fun h => hm (List.contains_iff_mem.1 h))]
        exact .inl ⟨⟨cs, t, hc, rfl, hm⟩, rfl⟩
    · rename_i hno
      exact .inr ⟨fun cs t h1 h2 => (hno cs t h1 h2).elim, rfl⟩

theorem setOption_ok {p : OptionProp} {o o' : DOpts} {v : PyVal} (h : setOption p o v = .ok o') :
    o' = o.set p.option v := by
  rcases setOption_cases p o v with ⟨_, e⟩ | ⟨_, _, e⟩ | ⟨_, _, e⟩ <;> rw [e] at h
  · cases h
  · cases h
  · exact (Except.ok.inj h).symm

theorem map_ok {ε α β} {x : Except ε α} {f : α → β} {b : β} (h : x.map f = .ok b) : ∃ a, x = .ok a ∧ f a = b := by
  cases x with
  | error e => cases h
  | ok a => injection h with h; exact ⟨a, rfl, h⟩

mutual
/-- every JSON object inside the value has pairwise distinct keys (true of every
value `json.loads` returns and of every Python `dict`) -/
def JsonWK : Json → Prop
  | .arr l => JsonWKList l
  | .obj l => (l.map (·.1)).Nodup ∧ JsonWKObj l
  | _ => True
def JsonWKList : List Json → Prop
  | [] => True
  | a :: as => JsonWK a ∧ JsonWKList as
def JsonWKObj : List (Text × Json) → Prop
  | [] => True
  | (_, v) :: as => JsonWK v ∧ JsonWKObj as
end

theorem jsonPyEqFind_eq (k : Text) (v : Json) (b : List (Text × Json)) :
    jsonPyEqFind k v b = Assoc.find jsonPyEq b (k, v) := by
  induction b with
  | nil => simp [jsonPyEqFind, Assoc.find]
  | cons p b ih =>
    obtain ⟨k', w⟩ := p
    rw [jsonPyEqFind]
    unfold Assoc.find at ih ⊢
    rw [List.lookup_cons]
    cases hk : k == k' with
    | true => simp
    | false => simp [ih]

theorem jsonPyEqObj_eq (a b : List (Text × Json)) : jsonPyEqObj a b = Assoc.all jsonPyEq a b := by
  induction a with
  | nil => simp [jsonPyEqObj, Assoc.all]
  | cons p a ih =>
    obtain ⟨k, v⟩ := p
    rw [jsonPyEqObj, jsonPyEqFind_eq, ih]
    simp only [Assoc.all, List.all_cons]

mutual
theorem jsonPyEq_refl : ∀ (a : Json), JsonWK a → jsonPyEq a a = true
  | .null, _ => by simp [jsonPyEq]
  | .bool _, _ => by simp [jsonPyEq]
  | .int _, _ => by simp [jsonPyEq]
  | .float _, _ => by simp [jsonPyEq]
  | .str _, _ => by simp [jsonPyEq]
  | .arr l, h => by
    rw [jsonPyEq]; rw [JsonWK] at h; exact jsonPyEqList_refl l h
  | .obj l, h => by
    rw [JsonWK] at h
    rw [jsonPyEq, jsonPyEqObj_eq]
    simp only [beq_self_eq_true, Bool.true_and]
    exact Assoc.all_refl _ _ h.1 (jsonPyEqObj_refl_mem l h.2)
theorem jsonPyEqList_refl : ∀ (l : List Json), JsonWKList l → jsonPyEqList l l = true
  | [], _ => by simp [jsonPyEqList]
  | a :: as, h => by
    rw [JsonWKList] at h
    rw [jsonPyEqList, jsonPyEq_refl a h.1, jsonPyEqList_refl as h.2]; rfl
theorem jsonPyEqObj_refl_mem : ∀ (l : List (Text × Json)), JsonWKObj l → ∀ p ∈ l, jsonPyEq p.2 p.2 = true
  | [], _ => by simp
  | (k, v) :: as, h => by
    rw [JsonWKObj] at h
    intro p hp
    rcases List.mem_cons.1 hp with rfl | hp
    · exact jsonPyEq_refl v h.1
    · exact jsonPyEqObj_refl_mem as h.2 p hp
end

theorem jsonWKObj_mem (l : List (Text × Json)) (h : JsonWKObj l) : ∀ p ∈ l, JsonWK p.2 := by
  induction l with
  | nil => simp
  | cons q l ih =>
    obtain ⟨k, v⟩ := q
    rw [JsonWKObj] at h
    intro p hp
    rcases List.mem_cons.1 hp with rfl | hp
    · exact h.1
    · exact ih h.2 p hp

mutual
theorem jsonPyEq_symm : ∀ (a : Json), JsonWK a → ∀ b, JsonWK b → jsonPyEq a b = jsonPyEq b a
  | .null, _, b, _ => by cases b <;> simp [jsonPyEq]
  | .bool _, _, b, _ => by cases b <;> simp [jsonPyEq] <;> exact BEq.comm
  | .int _, _, b, _ => by cases b <;> simp [jsonPyEq] <;> exact BEq.comm
  | .float _, _, b, _ => by cases b <;> simp [jsonPyEq] <;> exact BEq.comm
  | .str _, _, b, _ => by cases b <;> simp [jsonPyEq] <;> exact BEq.comm
  | .arr l, h, b, hb => by
    cases b <;> try simp [jsonPyEq]
    rename_i l'
    rw [JsonWK] at h hb
    exact jsonPyEqList_symm l h l' hb
  | .obj l, h, b, hb => by
    cases b <;> try simp [jsonPyEq]
    rename_i l'
    rw [JsonWK] at h hb
    rw [jsonPyEqObj_eq, jsonPyEqObj_eq]
    exact Assoc.all_symm jsonPyEq jsonPyEq l l' h.1 hb.1
      (fun p hp q hq => jsonPyEqObj_symm_mem l h.2 p hp q.2 (jsonWKObj_mem l' hb.2 q hq))
theorem jsonPyEqList_symm : ∀ (l : List Json), JsonWKList l → ∀ l', JsonWKList l' → jsonPyEqList l l' = jsonPyEqList l' l
  | [], _, l', _ => by cases l' <;> simp [jsonPyEqList]
  | a :: as, h, l', h' => by
    cases l' with
    | nil => simp [jsonPyEqList]
    | cons b bs =>
      rw [JsonWKList] at h h'
      rw [jsonPyEqList, jsonPyEqList, jsonPyEq_symm a h.1 b h'.1, jsonPyEqList_symm as h.2 bs h'.2]
theorem jsonPyEqObj_symm_mem : ∀ (l : List (Text × Json)), JsonWKObj l → ∀ p ∈ l, ∀ y, JsonWK y →
    jsonPyEq p.2 y = jsonPyEq y p.2
  | [], _ => by simp
  | (k, v) :: as, h => by
    rw [JsonWKObj] at h
    intro p hp y hy
    rcases List.mem_cons.1 hp with rfl | hp
    · exact jsonPyEq_symm v h.1 y hy
    · exact jsonPyEqObj_symm_mem as h.2 p hp y hy
end

/-- a `dict` value is well keyed; nothing is asked of the other values -/
def WKVal : PyVal → Prop
  | .dict j => JsonWK j
  | _ => True

/-- not an opaque object (which is never `==` to anything, itself included), and
`dict` values are well keyed -/
def PlainVal : PyVal → Prop
  | .other => False
  | .dict j => JsonWK j
  | _ => True

theorem PlainVal.wk {v : PyVal} (h : PlainVal v) : WKVal v := by
  cases v with
  | dict j => exact h
  | other => exact h.elim
  | _ => trivial

/-- the keys of the `options` dict are pairwise distinct and every value satisfies `P`; `ContentAll` … `TreeAll`
ask this of every `options` dict below, and `P` of every content -/
def OptsAll (P : PyVal → Prop) (o : DOpts) : Prop := (o.map (·.1)).Nodup ∧ ∀ p ∈ o, P p.2
def ContentAll (P : PyVal → Prop) (c : ContentSec) : Prop := OptsAll P c.opts ∧ P c.content
def FileAll (P : PyVal → Prop) (f : FileSec) : Prop :=
  OptsAll P f.opts ∧ ContentAll P f.metaSec ∧ ContentAll P f.diff
def ChangeAll (P : PyVal → Prop) (c : ChangeSec) : Prop :=
  OptsAll P c.opts ∧ ContentAll P c.preamble ∧ ContentAll P c.metaSec ∧ ∀ f ∈ c.files, FileAll P f
def TreeAll (P : PyVal → Prop) (t : Tree) : Prop :=
  OptsAll P t.opts ∧ ContentAll P t.preamble ∧ ContentAll P t.metaSec ∧ ∀ c ∈ t.changes, ChangeAll P c

/-- **well keyed**: in every `options` dict of the tree and in every JSON object
of every `dict` value (option values and contents) the keys are pairwise
distinct — what Python dictionaries guarantee by construction -/
def WellKeyed (t : Tree) : Prop := TreeAll WKVal t

/-- **plain**: well keyed, and no opaque object (`PyVal.other`) is stored as an
option value or as a content.  (`bool`, `int`, `None`, … are all allowed.) -/
def PlainTree (t : Tree) : Prop := TreeAll PlainVal t

theorem OptsAll.mono {P Q : PyVal → Prop} (h : ∀ v, P v → Q v) {o : DOpts} (ho : OptsAll P o) : OptsAll Q o :=
  ⟨ho.1, fun p hp => h _ (ho.2 p hp)⟩
theorem ContentAll.mono {P Q : PyVal → Prop} (h : ∀ v, P v → Q v) {c : ContentSec} (hc : ContentAll P c) :
    ContentAll Q c := ⟨hc.1.mono h, h _ hc.2⟩
theorem PlainTree.wellKeyed {t : Tree} (h : PlainTree t) : WellKeyed t := by
  have hw : ∀ v, PlainVal v → WKVal v := fun _ => PlainVal.wk
  obtain ⟨h1, h2, h3, h4⟩ := h
  refine ⟨h1.mono hw, h2.mono hw, h3.mono hw, fun c hc => ?_⟩
  obtain ⟨c1, c2, c3, c4⟩ := h4 c hc
  refine ⟨c1.mono hw, c2.mono hw, c3.mono hw, fun f hf => ?_⟩
  obtain ⟨f1, f2, f3⟩ := c4 f hf
  exact ⟨f1.mono hw, f2.mono hw, f3.mono hw⟩

theorem PyVal.pyEq_refl {v : PyVal} (h : PlainVal v) : v.pyEq v = true := by
  cases v with
  | other => exact h.elim
  | dict j => exact jsonPyEq_refl j h
  | _ => simp [PyVal.pyEq]

theorem PyVal.pyEq_symm {a b : PyVal} (ha : WKVal a) (hb : WKVal b) : a.pyEq b = b.pyEq a := by
  cases a <;> cases b <;> simp only [PyVal.pyEq]
  case dict.dict => exact jsonPyEq_symm _ ha _ hb
  all_goals exact BEq.comm

theorem DOpts.pyEq_eq (a b : DOpts) : DOpts.pyEq a b = (a.length == b.length && Assoc.all PyVal.pyEq a b) := by
  unfold DOpts.pyEq Assoc.all
  congr 1
  apply List.all_congr rfl
  intro p
  unfold Assoc.find DOpts.get
  cases List.lookup p.1 b <;> rfl

theorem DOpts.pyEq_refl {o : DOpts} (h : OptsAll PlainVal o) : o.pyEq o = true := by
  rw [DOpts.pyEq_eq, Assoc.all_refl _ _ h.1 (fun p hp => PyVal.pyEq_refl (h.2 p hp))]
  simp

theorem DOpts.pyEq_symm {a b : DOpts} (ha : OptsAll WKVal a) (hb : OptsAll WKVal b) : a.pyEq b = b.pyEq a := by
  rw [DOpts.pyEq_eq, DOpts.pyEq_eq]
  exact Assoc.all_symm PyVal.pyEq PyVal.pyEq a b ha.1 hb.1
    (fun p hp q hq => PyVal.pyEq_symm (ha.2 p hp) (hb.2 q hq))

theorem ContentSec.pyEq_refl {c : ContentSec} (h : ContentAll PlainVal c) : c.pyEq c = true := by
  unfold ContentSec.pyEq
  rw [DOpts.pyEq_refl h.1, PyVal.pyEq_refl h.2]
  simp

theorem ContentSec.pyEq_symm {a b : ContentSec} (ha : ContentAll WKVal a) (hb : ContentAll WKVal b) :
    a.pyEq b = b.pyEq a := by
  unfold ContentSec.pyEq
  rw [DOpts.pyEq_symm ha.1 hb.1, PyVal.pyEq_symm ha.2 hb.2, @BEq.comm _ _ _ a.kind b.kind]

theorem listEq_refl {α} (f : α → α → Bool) (l : List α) (h : ∀ x ∈ l, f x x = true) : listEq f l l = true := by
  induction l with
  | nil => rfl
  | cons x l ih =>
    rw [listEq, h x List.mem_cons_self, ih (fun y hy => h y (List.mem_cons_of_mem _ hy))]; rfl

theorem listEq_symm {α} (f : α → α → Bool) (a b : List α) (h : ∀ x ∈ a, ∀ y ∈ b, f x y = f y x) :
    listEq f a b = listEq f b a := by
  induction a generalizing b with
  | nil => cases b <;> rfl
  | cons x a ih =>
    cases b with
    | nil => rfl
    | cons y b =>
      rw [listEq, listEq, h x List.mem_cons_self y List.mem_cons_self,
        ih b (fun x' hx y' hy => h x' (List.mem_cons_of_mem _ hx) y' (List.mem_cons_of_mem _ hy))]

theorem listEq_map {α β} (f : α → α → Bool) (g : α → β) (a b : List α) (hg : ∀ x y, f x y = true → g x = g y)
    (h : listEq f a b = true) : a.map g = b.map g := by
  induction a generalizing b with
  | nil => cases b with
    | nil => rfl
    | cons y b => simp [listEq] at h
  | cons x a ih =>
    cases b with
    | nil => simp [listEq] at h
    | cons y b =>
      simp only [listEq, Bool.and_eq_true] at h
      simp only [List.map_cons, hg x y h.1, ih b h.2]

theorem FileSec.pyEq_refl {f : FileSec} (h : FileAll PlainVal f) : f.pyEq f = true := by
  unfold FileSec.pyEq
  rw [DOpts.pyEq_refl h.1, ContentSec.pyEq_refl h.2.1, ContentSec.pyEq_refl h.2.2]; rfl

theorem FileSec.pyEq_symm {a b : FileSec} (ha : FileAll WKVal a) (hb : FileAll WKVal b) : a.pyEq b = b.pyEq a := by
  unfold FileSec.pyEq
  rw [DOpts.pyEq_symm ha.1 hb.1, ContentSec.pyEq_symm ha.2.1 hb.2.1, ContentSec.pyEq_symm ha.2.2 hb.2.2]

theorem ChangeSec.pyEq_refl {c : ChangeSec} (h : ChangeAll PlainVal c) : c.pyEq c = true := by
  unfold ChangeSec.pyEq
  rw [DOpts.pyEq_refl h.1, ContentSec.pyEq_refl h.2.1, ContentSec.pyEq_refl h.2.2.1,
    listEq_refl _ _ (fun f hf => FileSec.pyEq_refl (h.2.2.2 f hf))]; rfl

theorem ChangeSec.pyEq_symm {a b : ChangeSec} (ha : ChangeAll WKVal a) (hb : ChangeAll WKVal b) :
    a.pyEq b = b.pyEq a := by
  unfold ChangeSec.pyEq
  rw [DOpts.pyEq_symm ha.1 hb.1, ContentSec.pyEq_symm ha.2.1 hb.2.1,
    ContentSec.pyEq_symm ha.2.2.1 hb.2.2.1,
    listEq_symm _ _ _ (fun x hx y hy => FileSec.pyEq_symm (ha.2.2.2 x hx) (hb.2.2.2 y hy))]

theorem DOpts.pyEq_set_ne {o : DOpts} {k : Bytes} {v v' : PyVal} (hk : o.get k = some v)
    (hne : v.pyEq v' = false) : DOpts.pyEq o (o.set k v') = false := by
  rw [DOpts.pyEq_eq, Bool.and_eq_false_iff]
  refine .inr (Bool.eq_false_iff.2 fun hc => ?_)
  -- the entry `(k, v)` of `o` finds `v'` on the other side
  obtain ⟨w, hw, hf⟩ := (Assoc.all_iff ..).1 hc (k, v) (Assoc.lookup_mem hk)
  cases hw.symm.trans (DOpts.get_set_self o k v')
  exact Bool.false_ne_true (hne.symm.trans hf)

/-- one more file in the last change (nothing to count it in when there is no change yet) -/
def bumpLast : List Nat → List Nat
  | [] => []
  | [n] => [n + 1]
  | n :: r => n :: bumpLast r

/-- like the loader's `section_handlers`, this looks at the section *name* only -/
def shapeStep (acc : List Nat) (s : SecId) : List Nat :=
  match s.name with
  | .change => acc ++ [0]
  | .file => bumpLast acc
  | _ => acc

/-- the shape a sequence of section ids describes: for every change id, in
order, the number of file ids between it and the next change id (file ids
before the first change id are not counted) -/
def shapeOf (ids : List SecId) : List Nat := ids.foldl shapeStep []

theorem bumpLast_append (l : List Nat) (n : Nat) : bumpLast (l ++ [n]) = l ++ [n + 1] := by
  induction l with
  | nil => rfl
  | cons m l ih =>
    cases l with
    | nil => rfl
    | cons m' l' =>
      simp only [List.cons_append] at ih ⊢
      rw [bumpLast, ih]
      simp

def treeShape (t : Tree) : List Nat := t.changes.map (·.files.length)

theorem updLastChange_shape_same (t : Tree) (f : ChangeSec → ChangeSec)
    (hf : ∀ c, (f c).files.length = c.files.length) : treeShape (updLastChange t f) = treeShape t := by
  unfold updLastChange
  split
  · rfl
  · rename_i c r hr
    rw [List.reverse_eq_cons_iff] at hr
    simp [treeShape, hr, hf]

theorem updLastFile_shape_same (t : Tree) (f : FileSec → FileSec) : treeShape (updLastFile t f) = treeShape t := by
  unfold updLastFile
  apply updLastChange_shape_same
  intro c
  split
  · rfl
  · rename_i x r hr
    rw [List.reverse_eq_cons_iff] at hr
    simp [hr]

theorem updLastChange_shape_add (t : Tree) (x : FileSec) :
    treeShape (updLastChange t (fun c => { c with files := c.files ++ [x] })) = bumpLast (treeShape t) := by
  unfold updLastChange
  split
  · rename_i hr
    rw [List.reverse_eq_nil_iff] at hr
    simp [treeShape, hr, bumpLast]
  · rename_i c r hr
    rw [List.reverse_eq_cons_iff] at hr
    simp only [treeShape, hr, List.reverse_cons, List.map_append, List.map_cons, List.map_nil, List.length_append,
      List.length_cons, List.length_nil]
    rw [bumpLast_append]

end Diffx.Dom

namespace Diffx.DomRT
open Diffx Diffx.Dom

/-- `options.setdefault('indent', None)` -/
def setdefaultIndent (o : DOpts) : DOpts :=
  if (o.get b!"indent").isSome then o else o ++ [(b!"indent", .none)]

theorem setdefaultIndent_get (o : DOpts) (k : Bytes) :
    (setdefaultIndent o).get k =
      if k = b!"indent" then some ((o.get b!"indent").getD .none) else o.get k := by
  unfold setdefaultIndent
  cases hi : o.get b!"indent" with
  | some v =>
    rw [Option.isSome_some, if_pos rfl]
    split
    · rw [‹k = _›, hi]
      rfl
    · rfl
  | none =>
    rw [Option.isSome_none, if_neg Bool.false_ne_true, DOpts.get, List.lookup_append]
    split
    · rw [‹k = _›, ← DOpts.get, hi]
      rfl
    · rw [List.lookup_cons, beq_false_of_ne ‹_›]
      exact Option.or_none

abbrev fold (ls : LoadSt) (rs : List Reader.Record) : Except LoadErr LoadSt := rs.foldlM loadRecord ls

def fileOk (f : FileSec) : Bool := f.metaSec.kind == .metadata && f.diff.kind == .diff
def changeOk (c : ChangeSec) : Bool :=
  c.preamble.kind == .preamble && c.metaSec.kind == .metadata && c.files.all fileOk
def treeOk (t : Tree) : Bool :=
  t.preamble.kind == .preamble && t.metaSec.kind == .metadata && t.changes.all changeOk

/-- **Well-formed tree**: every content section sits in the slot of its class (in Python the
`preamble` / `meta` / `diff` attributes always hold a `DiffXPreambleSection` /
`DiffXMetaSection` / `DiffXFileDiffSection` object; the model's `Tree` is plain data). -/
def TreeOk (t : Tree) : Prop := treeOk t = true

instance (t : Tree) : Decidable (TreeOk t) := inferInstanceAs (Decidable (treeOk t = true))

theorem treeOk_iff {t : Tree} : TreeOk t ↔ t.preamble.kind = .preamble ∧ t.metaSec.kind = .metadata ∧
    ∀ c ∈ t.changes, c.preamble.kind = .preamble ∧ c.metaSec.kind = .metadata ∧
      ∀ f ∈ c.files, f.metaSec.kind = .metadata ∧ f.diff.kind = .diff := by
  simp only [TreeOk, treeOk, changeOk, fileOk, Bool.and_eq_true, beq_iff_eq, List.all_eq_true, and_assoc]

end Diffx.DomRT

namespace Diffx.Dom
open Diffx

/-- where `section_handlers` puts a content section -/
def place : Kind → LoadSt → ContentSec → Except LoadErr LoadSt
  | .preamble, s, sec =>
    (match s.cur with
     | .main => .ok { s with tree := { s.tree with preamble := sec } }
     | .change => .ok { s with tree := updLastChange s.tree (fun c => { c with preamble := sec }) }
     | .file => .error .readerOther)
  | .metadata, s, sec =>
    (match s.cur with
     | .main => .ok { s with tree := { s.tree with metaSec := sec } }
     | .change => .ok { s with tree := updLastChange s.tree (fun c => { c with metaSec := sec }) }
     | .file => .ok { s with tree := updLastFile s.tree (fun f => { f with metaSec := sec }) })
  | .diff, s, sec => .ok { s with tree := updLastFile s.tree (fun f => { f with diff := sec }) }

section Forward
variable {s : LoadSt} {r : Reader.Record}

theorem loadRecord_text {t : Text} (hn : r.sec.name = .preamble) (hc : r.content = .text t) :
    loadRecord s r = place .preamble s ⟨.preamble, DomRT.setdefaultIndent (contentOpts r.opts), .str t⟩ := by
  unfold loadRecord
  simp only [hn, hc]
  rfl

theorem loadRecord_metadata {j : Json} (hn : r.sec.name = .metadata) (hc : r.content = .metadata j) :
    loadRecord s r = place .metadata s ⟨.metadata, contentOpts r.opts, .dict j⟩ := by
  unfold loadRecord
  simp only [hn, hc]
  rfl

theorem loadRecord_diff {b : Bytes} (hn : r.sec.name = .diff) (hc : r.content = .diff b) :
    loadRecord s r = place .diff s ⟨.diff, contentOpts r.opts, .bytes b⟩ := by
  unfold loadRecord
  simp only [hn, hc]
  rfl

end Forward

theorem loadRecord_ok {s s' : LoadSt} {r : Reader.Record} (h : loadRecord s r = .ok s') :
    (r.sec.name = .diffx ∧ s' = { s with tree := { s.tree with opts := optsToPy r.opts } }) ∨
    (r.sec.name = .change ∧ ∃ o, s' =
      ⟨{ s.tree with changes := s.tree.changes ++ [{ newChange with opts := o }] }, .change⟩) ∨
    (r.sec.name = .file ∧ ∃ o, s' =
      ⟨updLastChange s.tree (fun c => { c with files := c.files ++ [{ newFile with opts := o }] }), .file⟩) ∨
    (r.sec.name ≠ .diffx ∧ r.sec.name ≠ .change ∧ r.sec.name ≠ .file ∧ ∃ x, place x.kind s x = .ok s') := by
  unfold loadRecord at h
  cases hn : r.sec.name <;> simp only [hn] at h
  case diffx => exact .inl ⟨rfl, (Except.ok.inj h).symm⟩
  case change =>
    obtain ⟨o, _, h⟩ := Except.bind_ok h
    exact .inr (.inl ⟨rfl, o, (Except.ok.inj h).symm⟩)
  case file =>
    obtain ⟨o, _, h⟩ := Except.bind_ok h
    exact .inr (.inr (.inl ⟨rfl, o, (Except.ok.inj h).symm⟩))
  -- a content section: the content is of the section's kind, or the loader fails
  all_goals cases hc : r.content <;> simp only [hc] at h
  case preamble.text => exact .inr (.inr (.inr ⟨nofun, nofun, nofun, ⟨.preamble, _, _⟩, h⟩))
  case metadata.metadata => exact .inr (.inr (.inr ⟨nofun, nofun, nofun, ⟨.metadata, _, _⟩, h⟩))
  case diff.diff => exact .inr (.inr (.inr ⟨nofun, nofun, nofun, ⟨.diff, _, _⟩, h⟩))
  all_goals cases h

theorem place_keeps {k : Kind} {s s' : LoadSt} {x : ContentSec} (h : place k s x = .ok s') :
    treeShape s'.tree = treeShape s.tree ∧ s'.cur = s.cur := by
  obtain ⟨t, cur⟩ := s
  cases k <;> cases cur <;> cases h
  case preamble.main | metadata.main => exact ⟨rfl, rfl⟩
  case preamble.change | metadata.change => exact ⟨updLastChange_shape_same _ _ (fun _ => rfl), rfl⟩
  all_goals exact ⟨updLastFile_shape_same _ _, rfl⟩

theorem loadRecord_shape {s s' : LoadSt} {r : Reader.Record} (h : loadRecord s r = .ok s') :
    treeShape s'.tree = shapeStep (treeShape s.tree) r.sec := by
  unfold shapeStep
  rcases loadRecord_ok h with ⟨hn, rfl⟩ | ⟨hn, o, rfl⟩ | ⟨hn, o, rfl⟩ | ⟨h1, h2, h3, x, hp⟩
  · rw [hn]
    rfl
  · rw [hn]
    simp [treeShape, newChange]
  · rw [hn]
    exact updLastChange_shape_add _ _
  · rw [(place_keeps hp).1]
    split
    · exact absurd ‹_› h2
    · exact absurd ‹_› h3
    · rfl

theorem load_shape_from {rs : List Reader.Record} {s0 s : LoadSt} (h : rs.foldlM loadRecord s0 = .ok s) :
    treeShape s.tree = (rs.map (·.sec)).foldl shapeStep (treeShape s0.tree) := by
  induction rs generalizing s0 with
  | nil =>
    cases h
    rfl
  | cons r rs ih =>
    rw [List.foldlM_cons] at h
    obtain ⟨s1, h1, h2⟩ := Except.bind_ok h
    rw [ih h2, loadRecord_shape h1]
    rfl

theorem contentOpts_get (o : Opts) {k : Bytes} (hk : k ≠ b!"length") :
    (contentOpts o).get k = (o.get k).map optToPy ∧ (contentOpts o).get b!"length" = none := by
  unfold contentOpts optsToPy DOpts.get Opts.get
  induction o with
  | nil => exact ⟨rfl, rfl⟩
  | cons p o ih =>
    obtain ⟨k', w⟩ := p
    by_cases hl : k' = b!"length"
    · subst hl
      have : (k == b!"length") = false := beq_false_of_ne hk
      simp only [List.filter_cons, bne_self_eq_false, Bool.false_eq_true, if_false, List.lookup_cons, this]
      exact ih
    · have h1 : (k' != b!"length") = true := by simpa using hl
      have h2 : (b!"length" == k') = false := beq_false_of_ne (Ne.symm hl)
      simp only [List.filter_cons, h1, if_true, List.map_cons, List.lookup_cons, h2]
      refine ⟨?_, ih.2⟩
      cases k == k' with
      | true => rfl
      | false => exact ih.1

theorem containerOpts_error {o : Opts} {e : LoadErr} (h : containerOpts o = .error e) : e = .library := by
  unfold containerOpts at h
  generalize ([] : DOpts) = acc at h
  induction o generalizing acc with
  | nil => cases h
  | cons p o ih =>
    rw [List.foldlM_cons] at h
    rcases Except.bind_error h with h1 | ⟨a, _, h2⟩
    · split at h1
      · split at h1
        · cases h1
        · injection h1 with h1; exact h1.symm
      · injection h1 with h1; exact h1.symm
    · exact ih _ h2

theorem loadRecord_error {s : LoadSt} {r : Reader.Record} {e : LoadErr} (h : loadRecord s r = .error e) :
    e = .library ∨ (e = .typeError ∧ r.sec.name = .preamble) ∨
    (e = .readerOther ∧
      ((r.sec.name = .preamble ∧ s.cur = .file) ∨ (r.sec.name = .metadata ∧ ∀ j, r.content ≠ .metadata j) ∨
        (r.sec.name = .diff ∧ ∀ b, r.content ≠ .diff b))) := by
  unfold loadRecord at h
  cases hn : r.sec.name <;> simp only [hn] at h
  case diffx => cases h
  case change | file =>
    rcases Except.bind_error h with h | ⟨o, _, h⟩
    · exact .inl (containerOpts_error h)
    · cases h
  case preamble =>
    cases hc : r.content <;> simp only [hc] at h
    case text =>
      cases hcur : s.cur <;> simp only [hcur] at h <;> cases h
      exact .inr (.inr ⟨rfl, .inl ⟨rfl, rfl⟩⟩)
    all_goals
      cases h
      exact .inr (.inl ⟨rfl, rfl⟩)
  case metadata =>
    cases hc : r.content <;> simp only [hc] at h
    case metadata => cases hcur : s.cur <;> simp only [hcur] at h <;> cases h
    all_goals
      cases h
      exact .inr (.inr ⟨rfl, .inr (.inl ⟨rfl, nofun⟩)⟩)
  case diff =>
    cases hc : r.content <;> simp only [hc] at h
    case diff => cases h
    all_goals
      cases h
      exact .inr (.inr ⟨rfl, .inr (.inr ⟨rfl, nofun⟩)⟩)

theorem loadRecord_cur {s s' : LoadSt} {r : Reader.Record} (h : loadRecord s r = .ok s') :
    s'.cur = match r.sec.name with
      | .change => .change
      | .file => .file
      | _ => s.cur := by
  rcases loadRecord_ok h with ⟨hn, rfl⟩ | ⟨hn, o, rfl⟩ | ⟨hn, o, rfl⟩ | ⟨h1, h2, h3, x, hp⟩
  · rw [hn]
  · rw [hn]
  · rw [hn]
  · rw [(place_keeps hp).2]
    split
    · exact absurd ‹_› h2
    · exact absurd ‹_› h3
    · rfl

theorem loadRecord_ne_other {s : LoadSt} {r : Reader.Record} (hk : Reader.kindOk r) (hl : r.sec ∈ SecId.legal)
    (hp : r.sec.name = .preamble → s.cur = .main ∨ s.cur = .change) :
    loadRecord s r ≠ .error .readerOther := by
  intro h
  unfold Reader.kindOk at hk
  rcases loadRecord_error h with he | ⟨he, _⟩ | ⟨_, ⟨hn, hc⟩ | ⟨hn, hc⟩ | ⟨hn, hc⟩⟩
  · cases he
  · cases he
  · rcases hp hn with h1 | h1 <;> rw [h1] at hc <;> cases hc
  · obtain ⟨hnp, hm, hct, -⟩ := legal_meta _ hl hn
    cases hcc : r.content <;> simp only [hcc, hnp, hm, hct] at hk
    case metadata => exact hc _ hcc
    case diff => cases hk.2.2
    all_goals cases hk
  · obtain ⟨hnp, hm, hct, -⟩ := legal_diff _ hl hn
    cases hcc : r.content <;> simp only [hcc, hnp, hm, hct] at hk
    case diff => exact hc _ hcc
    all_goals cases hk

/-- What the reader's `valid` list (the ids it accepts next) says about the loader's cursor. The first field
gives `loadRecord_ne_other` a legal id, so that the content of the record is of the section's kind. The second
excludes a preamble below a file: while a preamble id is acceptable the cursor is not `.file`. A preamble id is
acceptable after `#diffx:` and after `#.change:` only (`validNext_preamble`); a `.change` record sets the cursor,
the `#diffx:` record leaves it where it was, and for that step the field speaks of the id `.diffx` as well. -/
def LoadInv (valid : List SecId) (cur : Cur) : Prop :=
  (∀ x ∈ valid, x ∈ SecId.legal) ∧
  (∀ x ∈ valid, x.name = .preamble ∨ x.name = .diffx → cur = .main ∨ cur = .change)

theorem loadInv_step {valid : List SecId} {s s' : LoadSt} {r : Reader.Record} (hi : LoadInv valid s.cur)
    (hr : r.sec ∈ valid) (h : loadRecord s r = .ok s') : LoadInv (validNext r.sec) s'.cur := by
  refine ⟨fun x hx => validNext_legal hx, fun x hx hxn => ?_⟩
  have hc := loadRecord_cur h
  rcases validNext_preamble hx hxn with e | e
  · rw [e] at hc
    simp only [SecId.main] at hc
    rw [hc]
    exact hi.2 _ hr (.inr (by rw [e]; rfl))
  · rw [e] at hc
    simp only [SecId.change] at hc
    exact .inr hc

theorem readLoop_load_ne_other (env : Env) (cfg : Config) (chunk fuel : Nat) (l : Reader.Loop) :
    ∀ s : LoadSt, LoadInv l.valid s.cur →
      (Reader.readLoop env cfg chunk fuel l).1.foldlM loadRecord s ≠ .error .readerOther := by
  induction fuel, l using Reader.readLoop_induct env cfg chunk with
  | zero l => intro _ _; nofun
  | error fuel l o hs => rw [Reader.readLoop_error fuel hs]; intro _ _; nofun
  | done fuel l hs => rw [Reader.readLoop_done fuel hs]; intro _ _; nofun
  | cons fuel l r l' hs ih =>
    intro s hi
    obtain ⟨hv, hn⟩ := Reader.stepSection_valid hs
    rw [Reader.readLoop_cons fuel hs, List.foldlM_cons]
    cases hl : loadRecord s r with
    | error e =>
      intro h
      cases h
      exact loadRecord_ne_other (Reader.stepSection_kind hs) (hi.1 _ hv)
        (fun hp => hi.2 _ hv (.inl hp)) hl
    | ok s1 => exact ih s1 (hn ▸ loadInv_step hi hv hl)

theorem contentCall_skip (di : Nat) {c : ContentSec} (h : c.content.truthy = false) :
    contentCall di c = .ok none := by
  unfold contentCall
  simp [h]

end Diffx.Dom

namespace Diffx.DomConc
open Diffx Diffx.Dom

theorem truthy_str (t : Text) : (PyVal.str t).truthy = true ↔ t ≠ [] := by
  cases t <;> simp [PyVal.truthy]

theorem truthy_bytes (b : Bytes) : (PyVal.bytes b).truthy = true ↔ b ≠ [] := by
  cases b <;> simp [PyVal.truthy]

def optText (o : DOpts) (k : Bytes) : Option Text :=
  match kw o k with
  | .str t => some t
  | _ => none

/-- the indentation a preamble is written with: `DEFAULT_PREAMBLE_INDENT` when the section has no
`indent` key, the integer when it has one, no indentation when the value is `None` -/
def indentOf (di : Nat) (o : DOpts) : Option Int :=
  match o.get b!"indent" with
  | none => some (di : Int)
  | some (.int n) => some n
  | some _ => none

/-- the `type` of a diff section (the DOM writer remaps `type` to `diff_type`; a raw `diff_type`
key is a parameter name too: the last of the two wins) -/
def typeOf (o : DOpts) : Option Text :=
  match (((o.filter (fun p => p.1 == b!"type" || p.1 == b!"diff_type")).getLast?).map (·.2) : Option PyVal) with
  | some (.str t) => some t
  | _ => none

def argOf : PyVal → Writer.Arg
  | .str t => .str t
  | .bytes b => .bytes b
  | .dict j => .dict j
  | _ => .other

/-- the `meta_format` argument: the last of `format` / `meta_format`, `json` when absent -/
def fmtOf (o : DOpts) : Text :=
  match (((o.filter (fun p => p.1 == b!"format" || p.1 == b!"meta_format")).getLast?).map (·.2) : Option PyVal) with
  | some (.str t) => t
  | _ => Text.ofAscii b!"json"

def callOf (di : Nat) (c : ContentSec) : Writer.Call :=
  match c.kind with
  | .preamble =>
    .preamble (argOf c.content) (optText c.opts b!"encoding") (indentOf di c.opts)
      (optText c.opts b!"line_endings") (optText c.opts b!"mimetype")
  | .metadata => .metadata (argOf c.content) (optText c.opts b!"encoding") (fmtOf c.opts)
  | .diff =>
    .diff (argOf c.content) (typeOf c.opts) (optText c.opts b!"encoding") (optText c.opts b!"line_endings")

theorem asOptText_eq {o : DOpts} {k : Bytes} {e : Option Text} (h : asOptText (kw o k) = .ok e) :
    e = optText o k := by
  unfold optText
  cases hv : kw o k <;> rw [hv] at h
  case none | str =>
    cases h
    rfl
  all_goals cases h

/-- The keywords the DOM writer inspects itself (`mimetype`, `indent`, `format`, `type`) are taken by cases over
the constructors of `PyVal`: the values named in a `case` line are those that do not raise; for the others both
branches of the model's `if isStr then throw _ else throw _` throw (`Except.ite_error_ne_ok`). `encoding` and
`line_endings` go through `asOptText_eq`. -/
theorem contentCall_spec {di : Nat} {c : ContentSec} (htr : c.content.truthy = true)
    {oc : Option Writer.Call} (h : contentCall di c = .ok oc) : oc = some (callOf di c) := by
  obtain ⟨k, o, v⟩ := c
  cases k <;> unfold contentCall at h <;>
    simp only [htr, Bool.not_true, Bool.false_eq_true, if_false, callOf] at h ⊢ <;>
    obtain ⟨_, _, h⟩ := Except.bind_ok h
  · -- preamble: `mimetype` is `None` or a `str`, `indent` is absent, an `int` or `None`
    simp only [optText, indentOf]
    generalize kw o b!"mimetype" = vm at h ⊢
    generalize o.get b!"indent" = vi at h ⊢
    cases vm
    case none | str =>
      rcases vi with _ | (_|_|_|_|_|_|_)
      case none | some.int | some.none =>
        simp only [pure_bind] at h
        obtain ⟨enc, he, h⟩ := Except.bind_ok h
        obtain ⟨le, hl, h⟩ := Except.bind_ok h
        cases h
        rw [asOptText_eq he, asOptText_eq hl]
        cases v <;> rfl
      all_goals exact absurd h Except.ite_error_ne_ok
    all_goals exact absurd h Except.ite_error_ne_ok
  · -- metadata: the last of `format` / `meta_format` is absent or a `str`
    obtain ⟨enc, he, h⟩ := Except.bind_ok h
    simp only [fmtOf]
    generalize (((o.filter (fun p => p.1 == b!"format" || p.1 == b!"meta_format")).getLast?).map (·.2) :
      Option PyVal) = vf at h ⊢
    rcases vf with _ | (_|_|_|_|_|_|_)
    case none | some.str =>
      cases h
      rw [asOptText_eq he]
      cases v <;> rfl
    all_goals cases h
  · -- diff: the last of `type` / `diff_type` is absent, `None` or a `str`
    simp only [typeOf]
    generalize (((o.filter (fun p => p.1 == b!"type" || p.1 == b!"diff_type")).getLast?).map (·.2) :
      Option PyVal) = vt at h ⊢
    rcases vt with _ | (_|_|_|_|_|_|_)
    case none | some.none | some.str =>
      simp only [Option.getD, pure_bind] at h
      obtain ⟨enc, he, h⟩ := Except.bind_ok h
      obtain ⟨le, hl, h⟩ := Except.bind_ok h
      cases h
      rw [asOptText_eq he, asOptText_eq hl]
      cases v <;> rfl
    all_goals exact absurd h Except.ite_error_ne_ok

theorem contentCall_some {di : Nat} {c : ContentSec} {call : Writer.Call}
    (h : contentCall di c = .ok (some call)) : call = callOf di c := by
  cases htr : c.content.truthy with
  | false =>
    rw [contentCall_skip di htr] at h
    cases h
  | true => exact Option.some.inj (contentCall_spec htr h)

theorem containerCall_enc {mk : Option Name → Writer.Call} {o : DOpts} {oc : Option Writer.Call}
    (h : containerCall mk o = .ok oc) : oc = some (mk (optText o b!"encoding")) := by
  unfold containerCall at h
  obtain ⟨_, _, h⟩ := Except.bind_ok h
  obtain ⟨enc, he, h⟩ := Except.bind_ok h
  cases h
  rw [asOptText_eq he]

theorem ctorArgs_enc {t : Tree} {wv : Text} {enc : Option Name} {ver : Text}
    (h : ctorArgs t wv = .ok (enc, ver)) : enc = optText t.opts b!"encoding" := by
  unfold ctorArgs at h
  obtain ⟨_, _, h⟩ := Except.bind_ok h
  -- `version` is absent or a `str` (anything else is refused); then `encoding` is read
  split at h <;> obtain ⟨_, hv, h⟩ := Except.bind_ok h
  case h_3 => cases hv
  all_goals
    obtain ⟨e, he, h⟩ := Except.bind_ok h
    cases h
    exact asOptText_eq he

end Diffx.DomConc
