import DiffxVerif.Lemmas.Header
/-!
# The bytes of a grammatical header line

A header line whose options satisfy the header grammar consists of `#`, the section id, `:`,
and `key=value` pairs joined by `, `: every byte is in the class `lineChar`
(`headerLine_lineChar`).  What one then wants to know about such a byte (it is ASCII, it is
neither LF nor CR) is a fact about the 256 bytes (`lineChar_facts`, by `forall_u8`).
-/
namespace Diffx.Header
open Diffx

/-- the bytes a grammatical header line is made of: `[A-Za-z0-9/_.-]` and `#`, `:`, space, `,`, `=` -/
def lineChar (b : UInt8) : Bool := valChar b || b == 35 || b == 58 || b == 32 || b == 44 || b == 61

theorem lineChar_facts : ∀ b : UInt8, lineChar b = true → b.toNat < 128 ∧ b ≠ 10 ∧ b ≠ 13 := by
  apply forall_u8; decide +kernel

theorem valChar_lineChar {b : UInt8} (h : valChar b = true) : lineChar b = true := by
  simp [lineChar, h]

theorem secId_bytes_lineChar (id : SecId) : ∀ b ∈ id.bytes, lineChar b = true := by
  have names : ∀ n : SecName, ∀ b ∈ n.bytes, lineChar b = true := by intro n; cases n <;> decide
  intro b hb
  rcases List.mem_append.mp hb with hb | hb
  · rw [List.eq_of_mem_replicate hb]; decide
  · exact names _ b hb

theorem renderPair_lineChar {p : Bytes × Bytes} (h : keyOk p.1 = true ∧ valOk p.2 = true) :
    ∀ b ∈ Spec.renderPair p, lineChar b = true := by
  simp only [Spec.renderPair, List.forall_mem_append, List.forall_mem_singleton]
  exact ⟨⟨fun b hb => valChar_lineChar (keyOk_valChar h.1 b hb), by decide⟩,
    fun b hb => valChar_lineChar ((valOk_facts h.2).2 b hb)⟩

theorem joinPairs_lineChar : ∀ (ps : List (Bytes × Bytes)),
    (∀ p ∈ ps, keyOk p.1 = true ∧ valOk p.2 = true) → ∀ b ∈ Spec.joinPairs ps, lineChar b = true
  | [], _ => fun b hb => nomatch hb
  | [p], h => renderPair_lineChar (h p (List.mem_cons_self ..))
  | p :: q :: ps, h => by
    simp only [Spec.joinPairs, List.forall_mem_append]
    exact ⟨⟨renderPair_lineChar (h p (List.mem_cons_self ..)), by decide⟩,
      joinPairs_lineChar (q :: ps) fun x hx => h x (List.mem_cons_of_mem _ hx)⟩

theorem headerLine_lineChar (id : SecId) {ps : List (Bytes × Bytes)}
    (h : ∀ p ∈ ps, keyOk p.1 = true ∧ valOk p.2 = true) : ∀ b ∈ Spec.headerLine id ps, lineChar b = true := by
  simp only [Spec.headerLine, List.forall_mem_append, List.forall_mem_singleton]
  refine ⟨⟨⟨by decide, secId_bytes_lineChar id⟩, by decide⟩, ?_⟩
  split
  · exact fun b hb => nomatch hb
  · exact List.forall_mem_cons.mpr ⟨by decide, joinPairs_lineChar ps h⟩

end Diffx.Header
