import DiffxVerif.Model.JsonText
/-!
# `json.loads` inverts `json.dumps` (model of `Model/JsonText.lean`)

On the domain `Dom` of values that present a Python object (floats carried as a lexeme the number
scanner reads back, strings without a high surrogate directly followed by a low one, dicts with
strictly increasing keys) the text `dumps` writes is printable ASCII and the LF of the layout, is
not empty, does not end with a line feed, and `loads` of it, followed by any white space, gives the
value back (`loads_dumps`).

The main induction (`scanValue_dumps` with `contElems_dumps` / `contMembers_dumps`) reads a printed
value back in front of any text that does not go on like a number (`NoNum`).  It rests on this:
`sortKeys` is the identity on `Dom`; the string scanner reads an escaped body back
(`scanStr_escBody`), where a lone high surrogate needs that no escape of a low surrogate follows
(`NoLowStart`); the number scanner, written as stages (`scanNumber_eq`), does not see past a
character that cannot occur in a number (`scanNumber_local`), so a lexeme that is read back entirely
on its own is read back in front of such a text, and what is needed of its characters is read off
the scan (`scanNumber_chars`); the fuel a value needs is bounded by the length of its text
(`cost_le`).
-/
namespace Diffx.JsonText
open Diffx

/-- the lexeme of a float: what `repr` gives for nan / inf / -inf, or an ASCII lexeme that the
number scanner reads back entirely as a float -/
def FloatLex (r : Bytes) : Prop :=
  r = b!"nan" ∨ r = b!"inf" ∨ r = b!"-inf" ∨
  ((∀ b ∈ r, b.toNat < 128) ∧ scanNumber (r.map (·.toNat)) = some (.float r, []))

/-- a Python `str`: code points below 0x110000, and no high surrogate directly followed by a low
surrogate (`json.dumps` writes two `\uXXXX` escapes for them, which `json.loads` reads back as ONE
astral character) -/
def StrOk : Text → Prop
  | [] => True
  | [c] => c < 0x110000
  | a :: b :: r => a < 0x110000 ∧ ¬ (isHigh a = true ∧ isLow b = true) ∧ StrOk (b :: r)

/-- keys strictly increasing (a Python dict has distinct keys; the harness presents it in
`sort_keys` order) -/
def KeysSorted : List (Text × Json) → Prop
  | [] => True
  | [_] => True
  | p :: q :: r => textLt p.1 q.1 = true ∧ KeysSorted (q :: r)

mutual
/-- values that present a Python object -/
def Dom : Json → Prop
  | .float r => FloatLex r
  | .str s => StrOk s
  | .arr l => DomList l
  | .obj l => KeysSorted l ∧ DomPairs l
  | _ => True
def DomList : List Json → Prop
  | [] => True
  | x :: xs => Dom x ∧ DomList xs
def DomPairs : List (Text × Json) → Prop
  | [] => True
  | (k, v) :: r => StrOk k ∧ Dom v ∧ DomPairs r
end

theorem textLt_irrefl (a : Text) : textLt a a = false := by
  induction a with
  | nil => rfl
  | cons x xs ih => simp [textLt, ih]

theorem textLt_trans : ∀ (a b c : Text), textLt a b = true → textLt b c = true → textLt a c = true
  | [], [], _, h, _ => by simp [textLt] at h
  | [], _ :: _, [], _, h => by simp [textLt] at h
  | [], _ :: _, _ :: _, _, _ => by simp [textLt]
  | _ :: _, [], _, h, _ => by simp [textLt] at h
  | _ :: _, _ :: _, [], _, h => by simp [textLt] at h
  | x :: xs, y :: ys, z :: zs, h1, h2 => by
    simp only [textLt] at h1 h2 ⊢
    by_cases hxy : x < y
    · by_cases hyz : y < z
      · have : x < z := by omega
        simp [this]
      · by_cases hzy : z < y
        · simp [hyz, hzy] at h2
        · have : x < z := by omega
          simp [this]
    · by_cases hyx : y < x
      · simp [hxy, hyx] at h1
      · simp only [hxy, hyx, if_false] at h1
        have hxy' : x = y := by omega
        subst hxy'
        by_cases hyz : x < z
        · simp [hyz]
        · by_cases hzy : z < x
          · simp [hyz, hzy] at h2
          · simp only [hyz, hzy, if_false] at h2 ⊢
            exact textLt_trans xs ys zs h1 h2

theorem textLt_ne {a b : Text} (h : textLt a b = true) : a ≠ b := by
  intro e; subst e; rw [textLt_irrefl] at h; cases h

theorem sortPairs_sorted : ∀ (l : List (Text × Json)), KeysSorted l → sortPairs l = l
  | [], _ => rfl
  | [p], _ => rfl
  | p :: q :: r, h => by
    have ih := sortPairs_sorted (q :: r) h.2
    unfold sortPairs at ih ⊢
    rw [List.foldr_cons, ih]
    simp [insertPair, h.1]

mutual
theorem sortKeys_dom : ∀ (j : Json), Dom j → sortKeys j = j
  | .null, _ | .bool _, _ | .int _, _ | .float _, _ | .str _, _ => by simp [sortKeys]
  | .arr l, h => by
    simp only [Dom] at h
    simp only [sortKeys, sortKeysList_dom l h]
  | .obj l, h => by
    simp only [Dom] at h
    simp only [sortKeys, sortKeysPairs_dom l h.2, sortPairs_sorted l h.1]
theorem sortKeysList_dom : ∀ (l : List Json), DomList l → sortKeysList l = l
  | [], _ => by simp [sortKeysList]
  | x :: xs, h => by
    simp only [DomList] at h
    simp only [sortKeysList, sortKeys_dom x h.1, sortKeysList_dom xs h.2]
theorem sortKeysPairs_dom : ∀ (l : List (Text × Json)), DomPairs l → sortKeysPairs l = l
  | [], _ => by simp [sortKeysPairs]
  | (k, v) :: r, h => by
    simp only [DomPairs] at h
    simp only [sortKeysPairs, sortKeys_dom v h.2.1, sortKeysPairs_dom r h.2.2]
end

theorem dumps_eq (j : Json) (hd : Dom j) (t : Text) : dumps j = .ok t ↔ dumpsAux 0 j = some t := by
  unfold dumps
  rw [sortKeys_dom j hd]
  cases dumpsAux 0 j <;> simp

theorem hexVal_hexDigit (d : Nat) (h : d < 16) : hexVal (hexDigit d) = some d := by
  unfold hexVal hexDigit
  by_cases h10 : d < 10
  · have : 48 ≤ 48 + d ∧ 48 + d ≤ 57 := by omega
    simp only [h10, if_true, this, and_self]
    congr 1; omega
  · have h1 : ¬ (48 ≤ 87 + d ∧ 87 + d ≤ 57) := by omega
    have h2 : 97 ≤ 87 + d ∧ 87 + d ≤ 102 := by omega
    simp only [h10, if_false, h1, h2, and_self, if_true]
    congr 1; omega

theorem hexDigit_lt (d : Nat) (h : d < 16) : 48 ≤ hexDigit d ∧ hexDigit d < 127 := by
  unfold hexDigit; split <;> omega

/-- the four hex digits of a `\uXXXX` escape (`'\\u{0:04x}'` of `json.encoder`) -/
def hx (c : Nat) : Text :=
  [hexDigit (c / 4096 % 16), hexDigit (c / 256 % 16), hexDigit (c / 16 % 16), hexDigit (c % 16)]

theorem u4_eq (c : Nat) : u4 c = 92 :: 117 :: hx c := rfl

theorem hex4_hx (c : Nat) (r : Text) : hex4 (hx c ++ r) = some (c % 65536, r) := by
  simp only [hx, List.cons_append, List.nil_append, hex4]
  rw [hexVal_hexDigit _ (Nat.mod_lt _ (by decide)), hexVal_hexDigit _ (Nat.mod_lt _ (by decide)),
    hexVal_hexDigit _ (Nat.mod_lt _ (by decide)), hexVal_hexDigit _ (Nat.mod_lt _ (by decide))]
  simp only [Option.some.injEq, Prod.mk.injEq, and_true]
  omega

/-- Case analysis on `escChar c` in the four shapes the proofs tell apart, with what they need
to know of each.  Every lemma about `escChar` goes through this one: `split` on the nine nested
`if`s of the definition is slow (its inner `simp` grows by half with each level). -/
@[elab_as_elim]
theorem escChar_cases {motive : Text → Prop} (c : Nat)
    (short : ∀ e, simpleEsc e = some c → e ≠ 117 → 32 ≤ e ∧ e < 127 → motive [92, e])
    (plain : 32 ≤ c ∧ c ≤ 126 → c ≠ 34 → c ≠ 92 → motive [c])
    (bmp : c < 0x10000 → motive (u4 c))
    (astral : 0x10000 ≤ c →
      motive (u4 (0xD800 + (c - 0x10000) / 1024) ++ u4 (0xDC00 + (c - 0x10000) % 1024))) :
    motive (escChar c) := by
  fun_cases escChar c
  case case8 h34 h92 _ _ _ _ _ h => exact plain h h34 h92
  case case9 h => exact bmp h
  case case10 h => exact astral (Nat.le_of_not_lt h)
  all_goals
    rename_i h; subst h
    exact short _ rfl (by decide) (by decide)

/-- what follows a lone high surrogate: not the escape of a low surrogate -/
def NoLowStart (t : Text) : Prop :=
  ∀ r3, t = 92 :: 117 :: r3 → ∃ u2 r4, hex4 r3 = some (u2, r4) ∧ isLow u2 = false

theorem noLowStart_u4 (u : Nat) (t : Text) (hl : isLow (u % 65536) = false) : NoLowStart (u4 u ++ t) := by
  intro r3 h
  obtain rfl : hx u ++ t = r3 := List.tail_eq_of_cons_eq (List.tail_eq_of_cons_eq h)
  exact ⟨_, t, hex4_hx u t, hl⟩

theorem scanStr_u_single (f : Nat) (u : Nat) (r r'' : Text) (hh : hex4 r = some (u, r''))
    (hs : isHigh u = true → NoLowStart r'') :
    scanStr (f + 1) (92 :: 117 :: r) = (scanStr f r'').map fun (s, rest) => (u :: s, rest) := by
  simp only [scanStr, show ¬ ((92 : Nat) = 34) by decide, if_false, if_true, hh]
  split
  · rename_i hhi
    have hn := hs hhi
    split
    · rename_i r3
      obtain ⟨u2, r4, h2, hl⟩ := hn r3 rfl
      simp only [h2, hl]
      simp
    · rfl
  · rfl

theorem scanStr_u_pair (f : Nat) (u u2 : Nat) (r r3 r4 : Text) (hh : hex4 r = some (u, 92 :: 117 :: r3))
    (hi : isHigh u = true) (h2 : hex4 r3 = some (u2, r4)) (hl : isLow u2 = true) :
    scanStr (f + 1) (92 :: 117 :: r) =
      (scanStr f r4).map fun (s, rest) => ((0x10000 + (u - 0xD800) * 1024 + (u2 - 0xDC00)) :: s, rest) := by
  simp only [scanStr, show ¬ ((92 : Nat) = 34) by decide, if_false, if_true, hh, hi, h2, hl]

theorem scanStr_simple (f : Nat) (e ch : Nat) (r : Text) (he : e ≠ 117) (hs : simpleEsc e = some ch) :
    scanStr (f + 1) (92 :: e :: r) = (scanStr f r).map fun (s, rest) => (ch :: s, rest) := by
  simp only [scanStr, show ¬ ((92 : Nat) = 34) by decide, if_false, if_true, he, hs]

theorem scanStr_plain (f : Nat) (c : Nat) (r : Text) (h1 : c ≠ 34) (h2 : c ≠ 92) (h3 : ¬ c < 32) :
    scanStr (f + 1) (c :: r) = (scanStr f r).map fun (s, rest) => (c :: s, rest) := by
  simp only [scanStr, h1, h2, h3, if_false]

/-- what `json.dumps` writes between the quotes: every character as `escChar` gives it -/
def escBody (s : Text) : Text := (s.map escChar).flatten

theorem escBody_cons (c : Nat) (s : Text) : escBody (c :: s) = escChar c ++ escBody s := by
  simp [escBody]

theorem escBody_nil : escBody [] = [] := rfl

theorem noLowStart_escChar (b : Nat) (hb : b < 0x110000) (hl : isLow b = false) (t : Text) :
    NoLowStart (escChar b ++ t) := by
  refine escChar_cases b (fun e _ hu _ r3 h => ?_) (fun _ _ h92 r3 h => ?_) (fun h => ?_) (fun h => ?_)
  · exact absurd (List.cons.inj (List.cons.inj h).2).1 hu
  · exact absurd (List.cons.inj h).1 h92
  · exact noLowStart_u4 b t (by rw [Nat.mod_eq_of_lt h]; exact hl)
  · rw [List.append_assoc]
    refine noLowStart_u4 _ _ ?_
    simp only [isLow, Bool.and_eq_false_iff, decide_eq_false_iff_not]
    omega

theorem length_escChar_pos (c : Nat) : 1 ≤ (escChar c).length := by
  refine escChar_cases c ?_ ?_ ?_ ?_ <;> intros <;> exact Nat.succ_le_succ (Nat.zero_le _)

theorem length_escBody (s : Text) : s.length ≤ (escBody s).length := by
  induction s with
  | nil => simp [escBody]
  | cons c s ih =>
    rw [escBody_cons, List.length_append, List.length_cons]
    have := length_escChar_pos c
    omega

theorem StrOk_tail {a : Nat} {s : Text} (h : StrOk (a :: s)) : StrOk s := by
  cases s with
  | nil => trivial
  | cons b r => exact h.2.2

theorem StrOk_head {a : Nat} {s : Text} (h : StrOk (a :: s)) : a < 0x110000 := by
  cases s with
  | nil => exact h
  | cons b r => exact h.1

theorem noLowStart_after {a : Nat} {s : Text} (h : StrOk (a :: s)) (hi : isHigh a = true) (rest : Text) :
    NoLowStart (escBody s ++ 34 :: rest) := by
  cases s with
  | nil =>
    intro r3 h3
    simp [escBody] at h3
  | cons b r =>
    rw [escBody_cons, List.append_assoc]
    have hb : b < 0x110000 := StrOk_head h.2.2
    have hl : isLow b = false := Bool.eq_false_iff.mpr fun hlb => h.2.1 ⟨hi, hlb⟩
    exact noLowStart_escChar b hb hl _

theorem scanStr_escChar (f : Nat) (c : Nat) (hc : c < 0x110000) (t : Text)
    (hn : isHigh c = true → NoLowStart t) :
    scanStr (f + 1) (escChar c ++ t) = (scanStr f t).map fun (s, rest) => (c :: s, rest) := by
  refine escChar_cases c (fun e hs hu _ => ?_) (fun h h34 h92 => ?_) (fun h => ?_) (fun h => ?_)
  · exact scanStr_simple f e c t hu hs
  · exact scanStr_plain f c t h34 h92 (by omega)
  · have := scanStr_u_single f (c % 65536) (hx c ++ t) t (hex4_hx c t)
    rw [Nat.mod_eq_of_lt h] at this
    exact this hn
  · rw [u4_eq, u4_eq]
    have h1 := hex4_hx (0xD800 + (c - 0x10000) / 1024) (92 :: 117 :: hx (0xDC00 + (c - 0x10000) % 1024) ++ t)
    have h2 := hex4_hx (0xDC00 + (c - 0x10000) % 1024) t
    have := scanStr_u_pair f _ _ _ _ _ h1 (by simp only [isHigh, Bool.and_eq_true, decide_eq_true_eq]; omega) h2
      (by simp only [isLow, Bool.and_eq_true, decide_eq_true_eq]; omega)
    simp only [List.cons_append, List.append_assoc] at this ⊢
    have hu : 0x10000 + ((0xD800 + (c - 0x10000) / 1024) % 65536 - 0xD800) * 1024 +
        ((0xDC00 + (c - 0x10000) % 1024) % 65536 - 0xDC00) = c := by omega
    rw [this, hu]

theorem scanStr_escBody : ∀ (s : Text) (f : Nat) (rest : Text), StrOk s → s.length + 1 ≤ f →
    scanStr f (escBody s ++ 34 :: rest) = some (s, rest)
  | [], f, rest, _, hf => by
    obtain ⟨f, rfl⟩ : ∃ g, f = g + 1 := ⟨f - 1, by simp at hf; omega⟩
    simp [escBody, scanStr]
  | c :: s, f, rest, h, hf => by
    obtain ⟨f, rfl⟩ : ∃ g, f = g + 1 := ⟨f - 1, by simp at hf; omega⟩
    rw [escBody_cons, List.append_assoc,
      scanStr_escChar f c (StrOk_head h) _ (fun hi => noLowStart_after h hi rest),
      scanStr_escBody s f rest (StrOk_tail h) (by simp at hf ⊢; omega)]
    rfl

theorem scanStr_quote_tail (s : Text) (rest : Text) (h : StrOk s) :
    scanStr ((escBody s ++ 34 :: rest).length + 1) (escBody s ++ 34 :: rest) = some (s, rest) := by
  apply scanStr_escBody s _ rest h
  have := length_escBody s
  simp only [List.length_append, List.length_cons]
  omega

theorem quote_eq (s : Text) : quote s = 34 :: (escBody s ++ [34]) := by
  simp [quote, escBody]

/-- `-?` of `NUMBER_RE`: the first `let` of `scanNumber` -/
def sgn (s : Text) : Bool × Text :=
  match s with
  | 45 :: r => (true, r)
  | _ => (false, s)

/-- `(0|[1-9]\d*)`: the `intPart` of `scanNumber` -/
def intPart (s1 : Text) : Option (Text × Text) :=
  match s1 with
  | 48 :: r => some ([48], r)
  | c :: r => if isDigit c then let (d, rest) := takeDigits r; some (c :: d, rest) else none
  | [] => none

/-- `(\.\d+)?`: the `(frac, s3)` of `scanNumber` -/
def fracPart (s2 : Text) : Text × Text :=
  match s2 with
  | 46 :: c :: r => if isDigit c then let (d, rest) := takeDigits r; (46 :: c :: d, rest) else ([], s2)
  | _ => ([], s2)

/-- `([eE][-+]?\d+)?`: the `(ex, s4)` of `scanNumber` -/
def expPart (s3 : Text) : Text × Text :=
  match s3 with
  | e :: r =>
    if e = 101 ∨ e = 69 then
      match r with
      | sg :: c :: r' =>
        if (sg = 43 ∨ sg = 45) ∧ isDigit c then let (d, rest) := takeDigits r'; (e :: sg :: c :: d, rest)
        else if isDigit sg then let (d, rest) := takeDigits (c :: r'); (e :: sg :: d, rest)
        else ([], s3)
      | [c] => if isDigit c then ([e, c], []) else ([], s3)
      | [] => ([], s3)
    else ([], s3)
  | [] => ([], s3)

/-- the last `if` of `scanNumber`: `int(integer)` when there is neither fraction nor exponent, else the float lexeme -/
def finish (neg : Bool) (ds frac ex s4 : Text) : Option (Json × Text) :=
  if frac.isEmpty && ex.isEmpty then
    if ds.length > maxDigits then none
    else some (.int (if neg then -(digitsVal ds : Int) else (digitsVal ds : Int)), s4)
  else
    some (.float ((((if neg then [45] else []) ++ ds ++ frac ++ ex : Text)).map Nat.toUInt8), s4)

theorem scanNumber_eq (s : Text) : scanNumber s =
    match intPart (sgn s).2 with
    | none => none
    | some (ds, s2) =>
      finish (sgn s).1 ds (fracPart s2).1 (expPart (fracPart s2).2).1 (expPart (fracPart s2).2).2 := by
  rfl

/-- the characters `NUMBER_RE` can match -/
def numChar (c : Nat) : Bool :=
  isDigit c || c == 45 || c == 43 || c == 46 || c == 101 || c == 69

/-- a text in front of which a number lexeme ends: the match cannot go on into it -/
def NoNum : Text → Prop
  | [] => True
  | c :: _ => numChar c = false

theorem NoNum.digit {c : Nat} {t : Text} (h : NoNum (c :: t)) : isDigit c = false := by
  simp only [NoNum, numChar, Bool.or_eq_false_iff] at h; exact h.1.1.1.1.1

theorem takeDigits_append (r rest : Text) (h : NoNum rest) :
    takeDigits (r ++ rest) = ((takeDigits r).1, (takeDigits r).2 ++ rest) := by
  induction r with
  | nil =>
    cases rest with
    | nil => rfl
    | cons c t => simp [takeDigits, NoNum.digit h]
  | cons c r ih =>
    simp only [List.cons_append, takeDigits]
    split
    · rw [ih]
    · rfl

theorem NoNum.ne {c : Nat} {t : Text} (h : NoNum (c :: t)) :
    c ≠ 45 ∧ c ≠ 43 ∧ c ≠ 46 ∧ c ≠ 101 ∧ c ≠ 69 := by
  simp only [NoNum, numChar, Bool.or_eq_false_iff, beq_eq_false_iff_ne] at h
  exact ⟨h.1.1.1.1.2, h.1.1.1.2, h.1.1.2, h.1.2, h.2⟩

theorem sgn_cons (c : Nat) (r : Text) : sgn (c :: r) = if c = 45 then (true, r) else (false, c :: r) := by
  unfold sgn
  split
  · rename_i heq
    obtain ⟨rfl, rfl⟩ := List.cons.inj heq
    rfl
  · rename_i hne
    rw [if_neg (fun hc => hne r (by rw [hc]))]

theorem sgn_append (s rest : Text) (h : NoNum rest) :
    sgn (s ++ rest) = ((sgn s).1, (sgn s).2 ++ rest) := by
  match s, rest with
  | c :: s, _ =>
    rw [List.cons_append, sgn_cons, sgn_cons]
    split <;> rfl
  | [], [] => rfl
  | [], d :: t => rw [List.nil_append, sgn_cons, if_neg (NoNum.ne h).1]; rfl

theorem intPart_cons (c : Nat) (r : Text) : intPart (c :: r) =
    if c = 48 then some ([48], r)
    else if isDigit c = true then some (c :: (takeDigits r).1, (takeDigits r).2) else none := by
  by_cases h48 : c = 48
  · subst h48; rfl
  · by_cases hc : isDigit c = true <;> simp [intPart, h48, hc]

theorem intPart_nondigit {c : Nat} (r : Text) (h : isDigit c = false) : intPart (c :: r) = none := by
  rw [intPart_cons, if_neg (by rintro rfl; cases h), if_neg (by simp [h])]

theorem intPart_append (s rest : Text) (h : NoNum rest) :
    intPart (s ++ rest) = (intPart s).map fun (ds, s2) => (ds, s2 ++ rest) := by
  match s, rest with
  | [], [] => rfl
  | [], d :: t => exact intPart_nondigit t (NoNum.digit h)
  | c :: s, _ =>
    rw [List.cons_append, intPart_cons, intPart_cons, takeDigits_append s _ h]
    split
    · rfl
    · split <;> rfl

theorem isDigit_iff (c : Nat) : isDigit c = true ↔ 48 ≤ c ∧ c ≤ 57 := by
  simp [isDigit]

/-- the `\d` that `(\.\d+)?` and the exponent ask for before they match anything -/
def digitNext : Text → Bool
  | c :: _ => isDigit c
  | [] => false

theorem digitNext_append (r rest : Text) (h : NoNum rest) : digitNext (r ++ rest) = digitNext r := by
  match r, rest with
  | _ :: _, _ => rfl
  | [], [] => rfl
  | [], c :: t => exact NoNum.digit h

theorem fracPart_cons (a : Nat) (r : Text) : fracPart (a :: r) =
    if a = 46 ∧ digitNext r = true then (46 :: (takeDigits r).1, (takeDigits r).2) else ([], a :: r) := by
  cases r with
  | nil => simp [fracPart, digitNext]
  | cons c r' =>
    by_cases ha : a = 46
    · subst ha
      by_cases hc : isDigit c = true <;> simp [fracPart, digitNext, takeDigits, hc]
    · simp [fracPart, ha]

theorem fracPart_append (s rest : Text) (h : NoNum rest) :
    fracPart (s ++ rest) = ((fracPart s).1, (fracPart s).2 ++ rest) := by
  match s, rest with
  | [], [] => rfl
  | [], c :: t => rw [List.nil_append, fracPart_cons, if_neg (fun hc => (NoNum.ne h).2.2.1 hc.1)]; rfl
  | a :: r, _ =>
    rw [List.cons_append, fracPart_cons, fracPart_cons, digitNext_append r _ h, takeDigits_append r _ h]
    split <;> rfl

/-- `[-+]?` of the exponent -/
def expSign : Text → Text × Text
  | sg :: t => if sg = 43 ∨ sg = 45 then ([sg], t) else ([], sg :: t)
  | [] => ([], [])

theorem expPart_cons (e : Nat) (r : Text) : expPart (e :: r) =
    if (e = 101 ∨ e = 69) ∧ digitNext (expSign r).2 = true then
      (e :: ((expSign r).1 ++ (takeDigits (expSign r).2).1), (takeDigits (expSign r).2).2)
    else ([], e :: r) := by
  by_cases he : e = 101 ∨ e = 69
  · match r with
    | [] => simp [expPart, he, expSign, digitNext]
    | [c] =>
      by_cases hs : c = 43 ∨ c = 45
      · have hc : isDigit c = false := by rcases hs with rfl | rfl <;> rfl
        simp [expPart, he, expSign, digitNext, hs, hc]
      · by_cases hc : isDigit c = true <;> simp [expPart, he, expSign, digitNext, hs, hc, takeDigits]
    | sg :: c :: r' =>
      by_cases hs : sg = 43 ∨ sg = 45
      · have hsg : isDigit sg = false := by rcases hs with rfl | rfl <;> rfl
        by_cases hc : isDigit c = true <;> simp [expPart, he, expSign, digitNext, hs, hc, hsg, takeDigits]
      · by_cases hsg : isDigit sg = true <;> simp [expPart, he, expSign, digitNext, hs, hsg, takeDigits]
  · simp [expPart, he]

theorem expSign_append (r rest : Text) (h : NoNum rest) :
    expSign (r ++ rest) = ((expSign r).1, (expSign r).2 ++ rest) := by
  match r, rest with
  | sg :: t, _ =>
    simp only [List.cons_append, expSign]
    split <;> rfl
  | [], [] => rfl
  | [], c :: t =>
    have := NoNum.ne h
    simp only [List.nil_append, expSign, show ¬ (c = 43 ∨ c = 45) by omega, if_false]

theorem expPart_append (s rest : Text) (h : NoNum rest) :
    expPart (s ++ rest) = ((expPart s).1, (expPart s).2 ++ rest) := by
  match s, rest with
  | [], [] => rfl
  | [], c :: t =>
    have := NoNum.ne h
    rw [List.nil_append, expPart_cons, if_neg (fun hc => by omega)]
    rfl
  | e :: r, _ =>
    rw [List.cons_append, expPart_cons, expPart_cons, expSign_append r _ h, digitNext_append _ _ h,
      takeDigits_append _ _ h]
    split <;> rfl

theorem sgn_nil : sgn [] = (false, []) := rfl
theorem intPart_nil : intPart [] = none := rfl

theorem finish_append (neg : Bool) (ds fr ex s4 rest : Text) :
    finish neg ds fr ex (s4 ++ rest) = (finish neg ds fr ex s4).map fun (v, r) => (v, r ++ rest) := by
  unfold finish
  split
  · split <;> rfl
  · rfl

theorem scanNumber_local (s rest : Text) (hr : NoNum rest) :
    scanNumber (s ++ rest) = (scanNumber s).map fun (v, r) => (v, r ++ rest) := by
  rw [scanNumber_eq, scanNumber_eq, sgn_append s rest hr]
  simp only
  rw [intPart_append _ rest hr]
  cases intPart (sgn s).2 with
  | none => rfl
  | some x =>
    simp only [Option.map_some]
    rw [fracPart_append x.2 rest hr]
    simp only
    rw [expPart_append _ rest hr]
    simp only
    exact finish_append ..

/-- a scan that consumes everything consumed number characters only: it would have stopped at
any other -/
theorem scanNumber_chars {s : Text} {v : Json} (h : scanNumber s = some (v, [])) :
    ∀ c ∈ s, numChar c = true := by
  intro c hc
  obtain ⟨p, q, rfl⟩ := List.append_of_mem hc
  cases hn : numChar c with
  | true => rfl
  | false =>
    rw [scanNumber_local p (c :: q) hn] at h
    cases hp : scanNumber p with
    | none => rw [hp] at h; cases h
    | some y =>
      rw [hp] at h
      simp only [Option.map_some, Option.some.injEq, Prod.mk.injEq] at h
      exact absurd h.2 (by simp)

theorem scanNumber_append {s : Text} {v : Json} {r : Text} (h : scanNumber s = some (v, r))
    (rest : Text) (hr : NoNum rest) : scanNumber (s ++ rest) = some (v, r ++ rest) := by
  rw [scanNumber_local s rest hr, h]; rfl

theorem char_isDigit {c : Char} (h : c.isDigit = true) : isDigit c.toNat = true := by
  unfold Char.isDigit at h
  simp only [Bool.and_eq_true, decide_eq_true_eq, UInt32.le_iff_toNat_le] at h
  simp only [isDigit, Bool.and_eq_true, decide_eq_true_eq]
  exact h

theorem natDigits_digits (k : Nat) : ∀ c ∈ natDigits k, isDigit c = true := by
  intro c hc
  obtain ⟨d, hd, rfl⟩ := List.mem_map.mp hc
  exact char_isDigit (Nat.isDigit_of_mem_toDigits (by decide) (by decide) hd)

theorem digitsVal_natDigits (k : Nat) : digitsVal (natDigits k) = k := by
  unfold digitsVal natDigits
  rw [List.foldl_map]
  have := @Nat.ofDigitChars_ten_toDigits k
  rw [Nat.ofDigitChars_eq_foldl] at this
  have e : (fun (sofar : Nat) (c : Char) => 10 * sofar + (c.toNat - '0'.toNat)) =
      (fun acc c => acc * 10 + (c.toNat - 48)) := by
    funext a c
    rw [Nat.mul_comm]; rfl
  rw [e] at this
  exact this

theorem toDigits_head (k : Nat) (hk : 0 < k) : ∃ c ds, Nat.toDigits 10 k = c :: ds ∧ c ≠ '0' := by
  induction k using Nat.strongRecOn with
  | _ k ih =>
    by_cases h : k < 10
    · refine ⟨Nat.digitChar k, [], Nat.toDigits_of_lt_base h, ?_⟩
      match k, hk, h with
      | 1, _, _ | 2, _, _ | 3, _, _ | 4, _, _ | 5, _, _ | 6, _, _ | 7, _, _ | 8, _, _ | 9, _, _ => decide
    · obtain ⟨c, ds, e, hc⟩ := ih (k / 10) (by omega) (by omega)
      refine ⟨c, ds ++ [Nat.digitChar (k % 10)], ?_, hc⟩
      rw [Nat.toDigits_of_base_le (by decide) (by omega), e]
      rfl

theorem natDigits_shape (k : Nat) : ∃ c ds, natDigits k = c :: ds ∧ isDigit c = true ∧
    (∀ d ∈ ds, isDigit d = true) ∧ (c = 48 → ds = []) := by
  by_cases hk : k = 0
  · subst hk
    exact ⟨48, [], by decide, by decide, by simp, fun _ => rfl⟩
  · obtain ⟨c, ds, e, hc⟩ := toDigits_head k (by omega)
    have hd := natDigits_digits k
    have e' : natDigits k = c.toNat :: ds.map Char.toNat := by
      unfold natDigits; rw [e]; rfl
    rw [e'] at hd
    refine ⟨c.toNat, ds.map Char.toNat, e', hd _ (by simp), fun d h => hd d (List.mem_cons_of_mem _ h), ?_⟩
    intro h48
    exfalso; apply hc
    have : c = Char.ofNat c.toNat := (Char.ofNat_toNat c).symm
    rw [this, h48]

theorem takeDigits_digits (ds : Text) (hd : ∀ d ∈ ds, isDigit d = true) : takeDigits ds = (ds, []) := by
  induction ds with
  | nil => rfl
  | cons d ds ih =>
    simp only [takeDigits, hd d (by simp), if_true, ih fun x hx => hd x (List.mem_cons_of_mem _ hx)]

theorem intPart_natDigits (k : Nat) : intPart (natDigits k) = some (natDigits k, []) := by
  obtain ⟨c, ds, e, hc, hd, h0⟩ := natDigits_shape k
  rw [e, intPart_cons]
  by_cases h48 : c = 48
  · rw [if_pos h48, h0 h48, h48]
  · rw [if_neg h48, if_pos hc, takeDigits_digits ds hd]

theorem sgn_natDigits (k : Nat) : sgn (natDigits k) = (false, natDigits k) := by
  obtain ⟨c, ds, e, hc, _, _⟩ := natDigits_shape k
  rw [e, sgn_cons, if_neg]
  intro h45
  rw [h45] at hc
  exact absurd hc (by decide)

theorem scanNumber_intText (n : Int) (hl : ¬ (natDigits n.natAbs).length > maxDigits) :
    scanNumber (intText n) = some (.int n, []) := by
  rw [scanNumber_eq]
  match n with
  | .ofNat k =>
    have hl' : ¬ (natDigits k).length > maxDigits := hl
    simp only [intText, sgn_natDigits, intPart_natDigits, fracPart, expPart, finish, List.isEmpty_nil, Bool.and_self,
      if_true, hl', if_false, digitsVal_natDigits]
    rfl
  | .negSucc k =>
    have e : sgn (intText (Int.negSucc k)) = (true, natDigits (k + 1)) := rfl
    have hl' : ¬ (natDigits (k + 1)).length > maxDigits := hl
    simp only [e, intPart_natDigits, fracPart, expPart, finish, List.isEmpty_nil, Bool.and_self, if_true, hl',
      if_false, digitsVal_natDigits]
    rfl

/-- the first character of a value -/
def startChar (c : Nat) : Bool :=
  isDigit c || c == 45 || c == 34 || c == 91 || c == 123 || c == 110 || c == 116 || c == 102 ||
    c == 78 || c == 73

theorem startChar_spec {c : Nat} (h : startChar c = true) :
    isWs c = false ∧ c ≠ 93 ∧ c ≠ 125 ∧ c ≠ 0xFEFF := by
  simp only [startChar, isDigit, Bool.or_eq_true, Bool.and_eq_true, decide_eq_true_eq, beq_iff_eq] at h
  simp only [isWs, Bool.or_eq_false_iff, beq_eq_false_iff_ne]
  omega

theorem skipWs_spaces (n : Nat) (r : Text) : skipWs (spaces n ++ r) = skipWs r := by
  induction n with
  | zero => rfl
  | succ n ih =>
    simp only [spaces, List.replicate_succ, List.cons_append] at ih ⊢
    simp only [skipWs, show isWs 32 = true by decide, if_true, ih]

theorem skipWs_nl (n : Nat) (r : Text) : skipWs (10 :: (spaces n ++ r)) = skipWs r := by
  simp only [skipWs, show isWs 10 = true by decide, if_true, skipWs_spaces]

theorem skipWs_sp (r : Text) : skipWs (32 :: r) = skipWs r := skipWs_spaces 1 r

theorem skipWs_notWs {c : Nat} (r : Text) (h : isWs c = false) : skipWs (c :: r) = c :: r := by
  simp [skipWs, h]

theorem skipWs_all (ws : Text) (h : ws.all isWs = true) : skipWs ws = [] := by
  induction ws with
  | nil => rfl
  | cons c r ih =>
    simp only [List.all_cons, Bool.and_eq_true] at h
    simp only [skipWs, h.1, if_true, ih h.2]

theorem dumpsAux_arr_cons {ind : Nat} {x : Json} {xs : List Json} {t : Text}
    (h : dumpsAux ind (.arr (x :: xs)) = some t) :
    ∃ a b, dumpsAux (ind + 4) x = some a ∧ dumpsItems (ind + 4) xs = some b ∧
      t = 91 :: 10 :: (spaces (ind + 4) ++ (a ++ (b ++ 10 :: spaces ind))) ++ [93] := by
  simp only [dumpsAux] at h
  split at h
  · rename_i a b ha hb
    cases h
    exact ⟨a, b, ha, hb, by simp⟩
  · cases h

theorem dumpsItems_cons {ind : Nat} {x : Json} {xs : List Json} {t : Text}
    (h : dumpsItems ind (x :: xs) = some t) :
    ∃ a b, dumpsAux ind x = some a ∧ dumpsItems ind xs = some b ∧
      t = 44 :: 10 :: (spaces ind ++ (a ++ b)) := by
  simp only [dumpsItems] at h
  split at h
  · rename_i a b ha hb
    cases h
    exact ⟨a, b, ha, hb, by simp⟩
  · cases h

theorem dumpsAux_obj_cons {ind : Nat} {k : Text} {v : Json} {r : List (Text × Json)} {t : Text}
    (h : dumpsAux ind (.obj ((k, v) :: r)) = some t) :
    ∃ a b, dumpsAux (ind + 4) v = some a ∧ dumpsPairs (ind + 4) r = some b ∧
      t = 123 :: 10 :: (spaces (ind + 4) ++ (34 :: (escBody k ++ 34 :: 58 :: 32 :: (a ++ (b ++ 10 :: spaces ind))))) ++
        [125] := by
  simp only [dumpsAux, dumpsSorted] at h
  split at h
  · rename_i a b ha hb
    cases h
    exact ⟨a, b, ha, hb, by simp [quote_eq]⟩
  · cases h

theorem dumpsPairs_cons {ind : Nat} {k : Text} {v : Json} {r : List (Text × Json)} {t : Text}
    (h : dumpsPairs ind ((k, v) :: r) = some t) :
    ∃ a b, dumpsAux ind v = some a ∧ dumpsPairs ind r = some b ∧
      t = 44 :: 10 :: (spaces ind ++ (34 :: (escBody k ++ 34 :: 58 :: 32 :: (a ++ b)))) := by
  simp only [dumpsPairs] at h
  split at h
  · rename_i a b ha hb
    cases h
    exact ⟨a, b, ha, hb, by simp [quote_eq]⟩
  · cases h

theorem floatText_lex {r : Bytes} (h : scanNumber (r.map (·.toNat)) = some (.float r, [])) :
    floatText r = r.map (·.toNat) := by
  unfold floatText
  -- `nan`, `inf` and `-inf` are not numbers for `scanNumber`: `h` is impossible for them
  rw [if_neg, if_neg, if_neg] <;> (rintro rfl; cases h)

theorem dumpsAux_int {ind : Nat} {n : Int} {a : Text} (h : dumpsAux ind (.int n) = some a) :
    scanNumber a = some (.int n, []) := by
  simp only [dumpsAux] at h
  split at h
  · cases h
  · rename_i hl
    cases h
    exact scanNumber_intText n hl

/-- the floats that print as a word, not as a number lexeme -/
def specials : List (Bytes × Text) := [(b!"nan", t!"NaN"), (b!"inf", t!"Infinity"), (b!"-inf", t!"-Infinity")]

theorem dumpsAux_float {ind : Nat} {r : Bytes} {a : Text} (hd : FloatLex r) (h : dumpsAux ind (.float r) = some a) :
    (r, a) ∈ specials ∨ scanNumber a = some (.float r, []) := by
  cases h
  rcases hd with rfl | rfl | rfl | ⟨_, hs⟩
  · exact .inl (by decide)
  · exact .inl (by decide)
  · exact .inl (by decide)
  · rw [floatText_lex hs]; exact .inr hs

theorem lexeme_head {s : Text} {x : Json × Text} (h : scanNumber s = some x) :
    ∃ c a', s = c :: a' ∧ startChar c = true := by
  match s with
  | [] => cases h
  | c :: a' =>
    refine ⟨c, a', rfl, ?_⟩
    rw [scanNumber_eq, sgn_cons] at h
    by_cases h45 : c = 45
    · rw [h45]; rfl
    · rw [if_neg h45] at h
      cases hd : isDigit c with
      | true => simp [startChar, hd]
      | false => rw [intPart_nondigit a' hd] at h; cases h

/-- a dumped value is not empty and does not end with LF, so the writer appends one (`normText`) -/
def LastOk (a : Text) : Prop := a ≠ [] ∧ a.getLast? ≠ some 10

theorem lastOk_concat (p : Text) (c : Nat) (h : c ≠ 10) : LastOk (p ++ [c]) := by
  refine ⟨by simp, ?_⟩
  rw [List.getLast?_concat]
  intro e; exact h (Option.some.inj e)

theorem lexeme_last {s : Text} {v : Json} (h : scanNumber s = some (v, [])) : LastOk s :=
  ⟨by obtain ⟨_, _, rfl, _⟩ := lexeme_head h; exact List.cons_ne_nil _ _, fun e => absurd (scanNumber_chars h 10 (List.mem_of_getLast? e)) (by decide)⟩

theorem dumpsAux_last (v : Json) (ind : Nat) (a : Text) (hd : Dom v) (h : dumpsAux ind v = some a) : LastOk a := by
  match v with
  | .null | .bool true | .bool false | .arr [] | .obj [] =>
    cases h; exact ⟨by decide, by decide⟩
  | .int n => exact lexeme_last (dumpsAux_int h)
  | .float r =>
    rcases dumpsAux_float hd h with hm | hs
    · exact (by decide : ∀ p ∈ specials, p.2 ≠ [] ∧ p.2.getLast? ≠ some 10) _ hm
    · exact lexeme_last hs
  | .str s =>
    cases h
    rw [quote_eq, ← List.cons_append]; exact lastOk_concat _ 34 (by decide)
  | .arr (x :: xs) =>
    obtain ⟨_, _, _, _, rfl⟩ := dumpsAux_arr_cons h
    exact lastOk_concat _ 93 (by decide)
  | .obj ((k, w) :: r) =>
    obtain ⟨_, _, _, _, rfl⟩ := dumpsAux_obj_cons h
    exact lastOk_concat _ 125 (by decide)

theorem scanValue_of_scanNumber {f : Nat} {s : Text} {x : Json × Text} (h : scanNumber s = some x) :
    scanValue (f + 1) s = some x := by
  rw [scanNumber_eq] at h
  unfold scanValue
  split
  -- what the number scanner accepts starts with `-` or a digit, and `-Infinity` it does not accept:
  -- only the last arm remains
  all_goals first
    | (simp [sgn, intPart, isDigit] at h; done)
    | (rw [scanNumber_eq]; exact h)

/-- the scanner accepts nothing that does not begin like a value: neither white space nor a closing bracket -/
theorem scanValue_head {f : Nat} {s : Text} {x : Json × Text} (h : scanValue f s = some x) :
    ∃ c r, s = c :: r ∧ startChar c = true := by
  cases f with
  | zero => simp [scanValue] at h
  | succ f =>
    unfold scanValue at h
    split at h
    all_goals first
      | exact ⟨_, _, rfl, by decide⟩
      | exact lexeme_head h

/-- what `scanElems` does after a value -/
def contElems (f : Nat) (r : Text) (acc : List Json) : Option (Json × Text) :=
  match skipWs r with
  | 93 :: rest => some (.arr acc.reverse, rest)
  | 44 :: rest => scanElems f (skipWs rest) acc
  | _ => none

theorem scanElems_succ (f : Nat) (s : Text) (acc : List Json) :
    scanElems (f + 1) s acc =
      match scanValue f s with
      | none => none
      | some (v, r) => contElems f r (v :: acc) := by
  rfl

/-- what `scanMembers` does after a value -/
def contMembers (f : Nat) (r : Text) (acc : List (Text × Json)) : Option (Json × Text) :=
  match skipWs r with
  | 125 :: rest => some (.obj acc, rest)
  | 44 :: rest => scanMembers f (skipWs rest) acc
  | _ => none

theorem scanMembers_succ (f : Nat) (r : Text) (acc : List (Text × Json)) :
    scanMembers (f + 1) (34 :: r) acc =
      match scanStr (r.length + 1) r with
      | none => none
      | some (k, r1) =>
        match skipWs r1 with
        | 58 :: r2 =>
          match scanValue f (skipWs r2) with
          | none => none
          | some (v, r3) => contMembers f r3 (setKey k v acc)
        | _ => none := by
  rfl

theorem scanValue_arr {f g : Nat} {s : Text} {x : Json × Text} {n : Nat} (hs : scanValue g s = some x) :
    scanValue (f + 1) (91 :: 10 :: (spaces n ++ s)) = scanElems f s [] := by
  obtain ⟨c, r, rfl, hc⟩ := scanValue_head hs
  have h := startChar_spec hc
  simp only [scanValue, skipWs_nl, skipWs_notWs r h.1]
  split
  · rename_i heq
    simp only [List.cons.injEq] at heq
    exact absurd heq.1 h.2.1
  · rfl

theorem scanValue_obj (f : Nat) (r : Text) (n : Nat) :
    scanValue (f + 1) (123 :: 10 :: (spaces n ++ 34 :: r)) = scanMembers f (34 :: r) [] := by
  simp only [scanValue, skipWs_nl, skipWs_notWs r (show isWs 34 = false by decide)]

theorem scanValue_str (f : Nat) (s rest : Text) (h : StrOk s) :
    scanValue (f + 1) (34 :: (escBody s ++ 34 :: rest)) = some (.str s, rest) := by
  simp only [scanValue, scanStr_quote_tail s rest h]
  rfl

theorem scanMembers_step {f : Nat} {k : Text} (hk : StrOk k) {s R : Text} {v : Json}
    (hv : scanValue f s = some (v, R)) (acc : List (Text × Json)) :
    scanMembers (f + 1) (34 :: (escBody k ++ 34 :: 58 :: 32 :: s)) acc = contMembers f R (setKey k v acc) := by
  obtain ⟨c, r, rfl, hc⟩ := scanValue_head hv
  rw [scanMembers_succ, scanStr_quote_tail k _ hk]
  simp only [skipWs_notWs _ (show isWs 58 = false by decide), skipWs_sp]
  rw [skipWs_notWs r (startChar_spec hc).1, hv]

theorem contElems_nil (f : Nat) (n : Nat) (rest : Text) (acc : List Json) :
    contElems f (10 :: (spaces n ++ 93 :: rest)) acc = some (.arr acc.reverse, rest) := by
  simp only [contElems, skipWs_nl, skipWs_notWs _ (show isWs 93 = false by decide)]

theorem contElems_cons {f g : Nat} {n : Nat} {s : Text} {x : Json × Text} {acc : List Json}
    (hs : scanValue g s = some x) : contElems f (44 :: 10 :: (spaces n ++ s)) acc = scanElems f s acc := by
  obtain ⟨c, r, rfl, hc⟩ := scanValue_head hs
  simp only [contElems, skipWs_notWs _ (show isWs 44 = false by decide), skipWs_nl,
    skipWs_notWs _ (startChar_spec hc).1]

theorem contMembers_nil (f : Nat) (n : Nat) (rest : Text) (acc : List (Text × Json)) :
    contMembers f (10 :: (spaces n ++ 125 :: rest)) acc = some (.obj acc, rest) := by
  simp only [contMembers, skipWs_nl, skipWs_notWs _ (show isWs 125 = false by decide)]

theorem contMembers_cons (f : Nat) (n : Nat) (r : Text) (acc : List (Text × Json)) :
    contMembers f (44 :: 10 :: (spaces n ++ 34 :: r)) acc = scanMembers f (34 :: r) acc := by
  simp only [contMembers, skipWs_notWs _ (show isWs 44 = false by decide), skipWs_nl,
    skipWs_notWs _ (show isWs 34 = false by decide)]

theorem setKey_fresh (k : Text) (v : Json) (acc : List (Text × Json)) (h : ∀ p ∈ acc, p.1 ≠ k) :
    setKey k v acc = acc ++ [(k, v)] := by
  induction acc with
  | nil => rfl
  | cons p acc ih =>
    obtain ⟨k', v'⟩ := p
    have h1 : ¬ k = k' := fun e => h (k', v') (by simp) e.symm
    simp only [setKey, h1, if_false, List.cons_append]
    rw [ih (fun q hq => h q (List.mem_cons_of_mem _ hq))]

theorem KeysSorted_tail {p : Text × Json} {l : List (Text × Json)} (h : KeysSorted (p :: l)) : KeysSorted l := by
  cases l with
  | nil => trivial
  | cons q r => exact h.2

theorem KeysSorted_lt (acc : List (Text × Json)) (p : Text × Json) (r : List (Text × Json))
    (h : KeysSorted (acc ++ p :: r)) : ∀ q ∈ acc, textLt q.1 p.1 = true := by
  induction acc with
  | nil => intro q hq; cases hq
  | cons a acc ih =>
    have iht := ih (KeysSorted_tail h)
    intro q hq
    simp only [List.mem_cons] at hq
    rcases hq with rfl | hq
    · cases acc with
      | nil => exact h.1
      | cons b acc' =>
        exact textLt_trans _ _ _ h.1 (iht b (by simp))
    · exact iht q hq

mutual
/-- fuel that `scanValue` needs for a printed value: one unit per value, and per element or member one more for
the call of `scanElems` / `scanMembers` that reads it -/
def cost : Json → Nat
  | .arr l => 1 + costList l
  | .obj l => 1 + costPairs l
  | _ => 1
def costList : List Json → Nat
  | [] => 0
  | x :: xs => 1 + cost x + costList xs
def costPairs : List (Text × Json) → Nat
  | [] => 0
  | (_, v) :: r => 1 + cost v + costPairs r
end

theorem noNum_items {ind : Nat} {l : List Json} {b : Text} (h : dumpsItems ind l = some b) (t : Text) :
    NoNum (b ++ 10 :: t) := by
  cases l with
  | nil => cases h; exact (by decide : numChar 10 = false)
  | cons x xs =>
    obtain ⟨_, _, _, _, rfl⟩ := dumpsItems_cons h
    exact (by decide : numChar 44 = false)

theorem noNum_pairs {ind : Nat} {l : List (Text × Json)} {b : Text} (h : dumpsPairs ind l = some b) (t : Text) :
    NoNum (b ++ 10 :: t) := by
  cases l with
  | nil => cases h; exact (by decide : numChar 10 = false)
  | cons p r =>
    obtain ⟨k, v⟩ := p
    obtain ⟨_, _, _, _, rfl⟩ := dumpsPairs_cons h
    exact (by decide : numChar 44 = false)

mutual
theorem scanValue_dumps : ∀ (v : Json) (ind : Nat) (a rest : Text) (f : Nat),
    Dom v → dumpsAux ind v = some a → NoNum rest → cost v ≤ f → scanValue f (a ++ rest) = some (v, rest)
  | v, _, _, _, 0, _, _, _, hf => by cases v <;> simp [cost] at hf
  | .arr (_ :: _), _, _, _, 1, _, _, _, hf => by simp only [cost, costList] at hf; omega
  | .obj (_ :: _), _, _, _, 1, _, _, _, hf => by simp only [cost, costPairs] at hf; omega
  | .null, ind, a, rest, f + 1, _, h, _, hf => by
    cases h; rfl
  | .bool true, ind, a, rest, f + 1, _, h, _, hf => by
    cases h; rfl
  | .bool false, ind, a, rest, f + 1, _, h, _, hf => by
    cases h; rfl
  | .int n, ind, a, rest, f + 1, _, h, hr, hf =>
    scanValue_of_scanNumber (scanNumber_append (dumpsAux_int h) rest hr)
  | .float r, ind, a, rest, f + 1, hd, h, hr, hf => by
    rcases dumpsAux_float hd h with hm | hs
    · simp only [specials, List.mem_cons, List.not_mem_nil, or_false, Prod.mk.injEq] at hm
      rcases hm with ⟨rfl, rfl⟩ | ⟨rfl, rfl⟩ | ⟨rfl, rfl⟩ <;> rfl
    · exact scanValue_of_scanNumber (scanNumber_append hs rest hr)
  | .str s, ind, a, rest, f + 1, hd, h, _, hf => by
    cases h
    simp only [Dom] at hd
    rw [quote_eq]
    simp only [List.cons_append, List.append_assoc, List.nil_append]
    exact scanValue_str f s rest hd
  | .arr [], ind, a, rest, f + 1, _, h, _, hf => by
    cases h; rfl
  | .arr (x :: xs), ind, a, rest, f + 2, hd, h, _, hf => by
    simp only [Dom, DomList] at hd
    simp only [cost, costList] at hf
    obtain ⟨a1, b, ha, hb, rfl⟩ := dumpsAux_arr_cons h
    have hv := scanValue_dumps x (ind + 4) a1 (b ++ 10 :: (spaces ind ++ 93 :: rest)) f hd.1 ha
      (noNum_items hb _) (by omega)
    simp only [List.cons_append, List.append_assoc, List.nil_append]
    rw [scanValue_arr hv, scanElems_succ, hv]
    exact contElems_dumps xs (ind + 4) ind b rest f [x] hd.2 hb (by omega)
  | .obj [], ind, a, rest, f + 1, _, h, _, hf => by
    cases h; rfl
  | .obj ((k, v) :: r), ind, a, rest, f + 2, hd, h, _, hf => by
    simp only [Dom, DomPairs] at hd
    obtain ⟨hsorted, hdk, hdv, hdr⟩ := hd
    simp only [cost, costPairs] at hf
    obtain ⟨a1, b, ha, hb, rfl⟩ := dumpsAux_obj_cons h
    have hv := scanValue_dumps v (ind + 4) a1 (b ++ 10 :: (spaces ind ++ 125 :: rest)) f hdv ha
      (noNum_pairs hb _) (by omega)
    simp only [List.cons_append, List.append_assoc, List.nil_append]
    rw [scanValue_obj, scanMembers_step hdk hv]
    exact contMembers_dumps r (ind + 4) ind b rest f [(k, v)] hdr hsorted hb (by omega)
theorem contElems_dumps : ∀ (l : List Json) (ind ind0 : Nat) (b rest : Text) (f : Nat) (acc : List Json),
    DomList l → dumpsItems ind l = some b → costList l ≤ f →
      contElems f (b ++ 10 :: (spaces ind0 ++ 93 :: rest)) acc = some (.arr (acc.reverse ++ l), rest)
  | [], ind, ind0, b, rest, f, acc, _, h, _ => by
    cases h
    rw [List.nil_append, contElems_nil, List.append_nil]
  | _ :: _, _, _, _, _, 0, _, _, _, hf => by simp only [costList] at hf; omega
  | x :: xs, ind, ind0, b, rest, f + 1, acc, hd, h, hf => by
    simp only [DomList] at hd
    simp only [costList] at hf
    obtain ⟨a1, b', ha, hb, rfl⟩ := dumpsItems_cons h
    have hv := scanValue_dumps x ind a1 (b' ++ 10 :: (spaces ind0 ++ 93 :: rest)) f hd.1 ha
      (noNum_items hb _) (by omega)
    simp only [List.cons_append, List.append_assoc]
    rw [contElems_cons hv, scanElems_succ, hv]
    have := contElems_dumps xs ind ind0 b' rest f (x :: acc) hd.2 hb (by omega)
    simp only [List.reverse_cons, List.append_assoc, List.cons_append, List.nil_append] at this
    exact this
theorem contMembers_dumps : ∀ (l : List (Text × Json)) (ind ind0 : Nat) (b rest : Text) (f : Nat)
    (acc : List (Text × Json)),
    DomPairs l → KeysSorted (acc ++ l) → dumpsPairs ind l = some b → costPairs l ≤ f →
      contMembers f (b ++ 10 :: (spaces ind0 ++ 125 :: rest)) acc = some (.obj (acc ++ l), rest)
  | [], ind, ind0, b, rest, f, acc, _, _, h, _ => by
    cases h
    rw [List.nil_append, contMembers_nil, List.append_nil]
  | _ :: _, _, _, _, _, 0, _, _, _, _, hf => by simp only [costPairs] at hf; omega
  | (k, v) :: r, ind, ind0, b, rest, f + 1, acc, hd, hs, h, hf => by
    simp only [DomPairs] at hd
    obtain ⟨hdk, hdv, hdr⟩ := hd
    simp only [costPairs] at hf
    obtain ⟨a1, b', ha, hb, rfl⟩ := dumpsPairs_cons h
    have hv := scanValue_dumps v ind a1 (b' ++ 10 :: (spaces ind0 ++ 125 :: rest)) f hdv ha
      (noNum_pairs hb _) (by omega)
    simp only [List.cons_append, List.append_assoc]
    -- the keys read so far are smaller than `k` (`KeysSorted_lt`), hence different: `setKey` appends, and the dict
    -- read back has its members in the order written
    rw [contMembers_cons, scanMembers_step hdk hv,
      setKey_fresh k v acc (fun p hp => textLt_ne (KeysSorted_lt acc (k, v) r hs p hp))]
    have := contMembers_dumps r ind ind0 b' rest f (acc ++ [(k, v)]) hdr
      (by simpa [List.append_assoc] using hs) hb (by omega)
    simp only [List.append_assoc, List.cons_append, List.nil_append] at this
    exact this
end

theorem length_spaces (n : Nat) : (spaces n).length = n := by simp [spaces]

mutual
theorem cost_le : ∀ (v : Json) (ind : Nat) (a : Text), dumpsAux ind v = some a → cost v ≤ a.length + 1
  | .null, _, _, _ | .bool _, _, _, _ | .int _, _, _, _ | .float _, _, _, _ | .str _, _, _, _ => by simp [cost]
  | .arr [], _, _, _ => by simp [cost, costList]
  | .arr (x :: xs), ind, a, h => by
    obtain ⟨a1, b, ha, hb, rfl⟩ := dumpsAux_arr_cons h
    have h1 := cost_le x _ _ ha
    have h2 := costList_le xs _ _ hb
    simp only [cost, costList, List.length_cons, List.length_append, length_spaces]
    omega
  | .obj [], _, _, _ => by simp [cost, costPairs]
  | .obj ((k, v) :: r), ind, a, h => by
    obtain ⟨a1, b, ha, hb, rfl⟩ := dumpsAux_obj_cons h
    have h1 := cost_le v _ _ ha
    have h2 := costPairs_le r _ _ hb
    simp only [cost, costPairs, List.length_cons, List.length_append, length_spaces]
    omega
theorem costList_le : ∀ (l : List Json) (ind : Nat) (b : Text), dumpsItems ind l = some b → costList l ≤ b.length
  | [], _, _, _ => by simp [costList]
  | x :: xs, ind, b, h => by
    obtain ⟨a1, b', ha, hb, rfl⟩ := dumpsItems_cons h
    have h1 := cost_le x _ _ ha
    have h2 := costList_le xs _ _ hb
    simp only [costList, List.length_cons, List.length_append, length_spaces]
    omega
theorem costPairs_le : ∀ (l : List (Text × Json)) (ind : Nat) (b : Text),
    dumpsPairs ind l = some b → costPairs l ≤ b.length
  | [], _, _, _ => by simp [costPairs]
  | (k, v) :: r, ind, b, h => by
    obtain ⟨a1, b', ha, hb, rfl⟩ := dumpsPairs_cons h
    have h1 := cost_le v _ _ ha
    have h2 := costPairs_le r _ _ hb
    simp only [costPairs, List.length_cons, List.length_append, length_spaces]
    omega
end

theorem noNum_ws (ws : Text) (h : ws.all isWs = true) : NoNum ws := by
  cases ws with
  | nil => trivial
  | cons c r =>
    simp only [List.all_cons, Bool.and_eq_true, isWs, Bool.or_eq_true, beq_iff_eq] at h
    rcases h.1 with ((rfl | rfl) | rfl) | rfl <;> rfl

theorem loads_dumps (j : Json) (hd : Dom j) (t : Text) (h : dumps j = .ok t) (ws : Text)
    (hws : ws.all isWs = true) : loads (t ++ ws) = .ok j := by
  rw [dumps_eq j hd] at h
  have hf := cost_le j 0 _ h
  -- `2 * len + 2` is the fuel `loads` gives `scanValue`; `cost_le` bounds what is needed by `len + 1`
  have hv := scanValue_dumps j 0 t ws (2 * (t ++ ws).length + 2) hd h (noNum_ws ws hws)
    (by simp only [List.length_append] at hf ⊢; omega)
  obtain ⟨c, r, e, hc⟩ := scanValue_head hv
  have hcs := startChar_spec hc
  unfold loads
  rw [e] at hv ⊢
  split
  · rename_i heq
    simp only [List.cons.injEq] at heq
    exact absurd heq.1 hcs.2.2.2
  · rw [skipWs_notWs _ hcs.1, hv]
    simp only [skipWs_all ws hws, List.isEmpty_nil, if_true]

/-- printable ASCII, or the line feed of the layout -/
def txtChar (c : Nat) : Bool := (32 ≤ c && c < 127) || c == 10

theorem txtChar_of_range {c : Nat} (h : 32 ≤ c ∧ c < 127) : txtChar c = true := by
  simp [txtChar, h.1, h.2]

theorem all_spaces (n : Nat) : (spaces n).all txtChar = true := by
  simp only [spaces, List.all_replicate]
  simp
  right; decide

theorem all_hx (c : Nat) : (hx c).all txtChar = true := by
  have hb : ∀ d, d < 16 → txtChar (hexDigit d) = true := fun d hd =>
    txtChar_of_range ⟨by have := hexDigit_lt d hd; omega, (hexDigit_lt d hd).2⟩
  simp only [hx, List.all_cons, List.all_nil, Bool.and_true, Bool.and_eq_true]
  exact ⟨hb _ (Nat.mod_lt _ (by decide)), hb _ (Nat.mod_lt _ (by decide)), hb _ (Nat.mod_lt _ (by decide)),
    hb _ (Nat.mod_lt _ (by decide))⟩

theorem all_u4 (c : Nat) : (u4 c).all txtChar = true := by
  rw [u4_eq]
  simp only [List.all_cons, all_hx, Bool.and_true]
  decide

theorem all_escChar (c : Nat) : (escChar c).all txtChar = true := by
  refine escChar_cases c (fun e _ _ hp => ?_) (fun h _ _ => ?_) (fun _ => all_u4 c) (fun _ => ?_)
  · simp only [List.all_cons, List.all_nil, Bool.and_true, txtChar_of_range hp]; decide
  · simp only [List.all_cons, List.all_nil, Bool.and_true]; exact txtChar_of_range (by omega)
  · simp only [List.all_append, all_u4, Bool.and_self]

theorem all_escBody (s : Text) : (escBody s).all txtChar = true := by
  induction s with
  | nil => rfl
  | cons c s ih => rw [escBody_cons, List.all_append, all_escChar, ih]; rfl

theorem lexeme_all {s : Text} {v : Json} (h : scanNumber s = some (v, [])) : s.all txtChar = true := by
  rw [List.all_eq_true]
  intro c hc
  have := scanNumber_chars h c hc
  simp only [numChar, isDigit, Bool.or_eq_true, Bool.and_eq_true, decide_eq_true_eq, beq_iff_eq] at this
  exact txtChar_of_range (by omega)

mutual
theorem all_dumpsAux : ∀ (v : Json) (ind : Nat) (a : Text), Dom v → dumpsAux ind v = some a →
    a.all txtChar = true
  | .null, _, _, _, h => by cases h; decide
  | .bool true, _, _, _, h => by cases h; decide
  | .bool false, _, _, _, h => by cases h; decide
  | .int n, _, _, _, h => lexeme_all (dumpsAux_int h)
  | .float r, _, _, hd, h => by
    rcases dumpsAux_float hd h with hm | hs
    · exact (by decide : ∀ p ∈ specials, p.2.all txtChar = true) _ hm
    · exact lexeme_all hs
  | .str s, _, _, _, h => by
    cases h
    rw [quote_eq]
    simp only [List.all_cons, List.all_append, all_escBody, List.all_nil, Bool.and_true]
    decide
  | .arr [], _, _, _, h => by cases h; decide
  | .arr (x :: xs), ind, a, hd, h => by
    simp only [Dom, DomList] at hd
    obtain ⟨a1, b, ha, hb, rfl⟩ := dumpsAux_arr_cons h
    simp only [List.all_cons, List.all_append, all_spaces, all_dumpsAux x _ _ hd.1 ha,
      all_dumpsItems xs _ _ hd.2 hb, List.all_nil, Bool.and_true]
    decide
  | .obj [], _, _, _, h => by cases h; decide
  | .obj ((k, v) :: r), ind, a, hd, h => by
    simp only [Dom, DomPairs] at hd
    obtain ⟨-, -, hdv, hdr⟩ := hd
    obtain ⟨a1, b, ha, hb, rfl⟩ := dumpsAux_obj_cons h
    simp only [List.all_cons, List.all_append, all_spaces, all_escBody, all_dumpsAux v _ _ hdv ha,
      all_dumpsPairs r _ _ hdr hb, List.all_nil, Bool.and_true]
    decide
theorem all_dumpsItems : ∀ (l : List Json) (ind : Nat) (b : Text), DomList l → dumpsItems ind l = some b →
    b.all txtChar = true
  | [], _, _, _, h => by cases h; rfl
  | x :: xs, ind, b, hd, h => by
    simp only [DomList] at hd
    obtain ⟨a1, b', ha, hb, rfl⟩ := dumpsItems_cons h
    simp only [List.all_cons, List.all_append, all_spaces, all_dumpsAux x _ _ hd.1 ha,
      all_dumpsItems xs _ _ hd.2 hb, Bool.and_true]
    decide
theorem all_dumpsPairs : ∀ (l : List (Text × Json)) (ind : Nat) (b : Text), DomPairs l →
    dumpsPairs ind l = some b → b.all txtChar = true
  | [], _, _, _, h => by cases h; rfl
  | (k, v) :: r, ind, b, hd, h => by
    simp only [DomPairs] at hd
    obtain ⟨-, hdv, hdr⟩ := hd
    obtain ⟨a1, b', ha, hb, rfl⟩ := dumpsPairs_cons h
    simp only [List.all_cons, List.all_append, all_spaces, all_escBody, all_dumpsAux v _ _ hdv ha,
      all_dumpsPairs r _ _ hdr hb, Bool.and_true]
    decide
end

/-- `ensure_ascii`: the text is pure ASCII -/
theorem dumps_ascii (j : Json) (hd : Dom j) (t : Text) (h : dumps j = .ok t) : ∀ ch ∈ t, ch < 128 := by
  rw [dumps_eq j hd] at h
  intro ch hch
  have := List.all_eq_true.mp (all_dumpsAux j 0 t hd h) ch hch
  simp only [txtChar, Bool.or_eq_true, Bool.and_eq_true, decide_eq_true_eq, beq_iff_eq] at this
  omega

theorem dumps_noCR (j : Json) (hd : Dom j) (t : Text) (h : dumps j = .ok t) : 13 ∉ t := by
  rw [dumps_eq j hd] at h
  intro hch
  have := List.all_eq_true.mp (all_dumpsAux j 0 t hd h) 13 hch
  exact absurd this (by decide)

theorem dumps_last (j : Json) (hd : Dom j) (t : Text) (h : dumps j = .ok t) :
    t ≠ [] ∧ t.getLast? ≠ some 10 := by
  rw [dumps_eq j hd] at h
  exact dumpsAux_last j 0 t hd h

def sample : Json :=
  .obj [(t!"a", .int 1), (t!"b", .arr [.str [0xD800], .float b!"1.5", .float b!"nan", .null]), (t!"c", .obj [])]

def sampleText : Text :=
  t!"{\n    \"a\": 1,\n    \"b\": [\n        \"\\ud800\",\n        1.5,\n        NaN,\n        null\n    ],\n    \"c\": {}\n}"

theorem sample_dom : Dom sample := by
  have h15 : FloatLex b!"1.5" := Or.inr (Or.inr (Or.inr ⟨by decide, rfl⟩))
  have hnan : FloatLex b!"nan" := Or.inl rfl
  simp only [sample, Dom, DomList, DomPairs, KeysSorted, StrOk]
  simp only [h15, hnan, and_true, true_and]
  decide

example : dumps sample = .ok sampleText := by rfl
example : loads sampleText = .ok sample := by rfl

/-- the round-trip theorem applied (its hypotheses are satisfiable) -/
example : loads (sampleText ++ t!" \n") = .ok sample :=
  loads_dumps sample sample_dom sampleText rfl _ rfl
example : 13 ∉ sampleText := dumps_noCR sample sample_dom sampleText rfl

/-- a high surrogate directly followed by a low one does not survive: `loads` joins them -/
example : ∃ t, dumps (.obj [(t!"k", .str [0xD800, 0xDC00])]) = .ok t ∧
    loads t = .ok (.obj [(t!"k", .str [0x10000])]) := ⟨_, rfl, rfl⟩

end Diffx.JsonText
