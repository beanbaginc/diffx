import DiffxVerif.Lemmas.RoundTrip
import DiffxVerif.Lemmas.Rendered
import DiffxVerif.Properties.C02
/-!
# Headers the writer renders, as the reader reads them

A header that `_write_section_header` renders from the option list `opts` is the header line of a `Spec.Sec`
with the options `C02.writtenPairs opts` (sorted, `None` dropped), so `Reader.stepSection_rendered` applies
(`written_step`).  This rests on two property theorems, hence the import of `Properties/C02`: `C02_header` for
the bytes, and `C02_written_values_ok`, by which the writer's value check is what the header grammar asks of the
values and what keeps a `str` value a string for the reader.  A number is read back by `int()` as the number
`%s` wrote (`convert_natDigits`; the bound `10 ^ 19` is the power of ten above `Reader.maxRead`, well within
`maxIntDigits`).  Callers never look at the sorted list: the options on the wire and the options the reader
reports are lookups in `opts` itself (`optLookup`; `Conform.written_get`, `reported_written_get`).
-/
namespace Diffx
open Diffx.Writer Diffx.Header

theorem natDigits_toAscii (n : Nat) :
    (natDigits n).toAscii = (Nat.toDigits 10 n).map (fun c => c.toNat.toUInt8) := by
  simp [natDigits, Text.toAscii]

theorem digitChar_u8 (c : Char) (h : c.isDigit = true) :
    isDigit c.toNat.toUInt8 = true ∧ c.toNat.toUInt8.toNat = c.toNat := by
  have h' : 48 ≤ c.toNat ∧ c.toNat ≤ 57 := by
    unfold Char.isDigit at h
    simp only [Bool.and_eq_true, decide_eq_true_eq, UInt32.le_iff_toNat_le] at h
    exact h
  have e : c.toNat.toUInt8.toNat = c.toNat := by
    show (UInt8.ofNat c.toNat).toNat = c.toNat
    rw [UInt8.toNat_ofNat']; omega
  refine ⟨?_, e⟩
  simp only [isDigit, Bool.and_eq_true, decide_eq_true_eq, UInt8.le_iff_toNat_le, e]
  exact h'

theorem natDigits_isDigit (n : Nat) : ∀ b ∈ (natDigits n).toAscii, isDigit b = true := by
  intro b hb
  rw [natDigits_toAscii] at hb
  obtain ⟨c, hc, rfl⟩ := List.mem_map.mp hb
  exact (digitChar_u8 c (Nat.isDigit_of_mem_toDigits (by decide) (by decide) hc)).1

theorem natDigits_ne_nil (n : Nat) : (natDigits n).toAscii ≠ [] := by
  rw [natDigits_toAscii]; simp

theorem foldl_digits (l : List Char) (hl : ∀ c ∈ l, c.isDigit = true) (init : Nat) :
    (l.map (fun c => c.toNat.toUInt8)).foldl (fun a b => a * 10 + (b.toNat - 48)) init =
      Nat.ofDigitChars 10 l init := by
  induction l generalizing init with
  | nil => rfl
  | cons c r ih =>
    simp only [List.map_cons, List.foldl_cons, Nat.ofDigitChars_cons]
    rw [ih (fun d hd => hl d (List.mem_cons_of_mem _ hd))]
    rw [(digitChar_u8 c (hl c (by simp))).2, Nat.mul_comm]
    rfl

theorem natDigits_val (n : Nat) : digitsVal (natDigits n).toAscii = n := by
  rw [natDigits_toAscii]
  unfold digitsVal
  rw [foldl_digits _ (fun c hc => Nat.isDigit_of_mem_toDigits (by decide) (by decide) hc)]
  exact Nat.ofDigitChars_ten_toDigits

theorem natDigits_length (n : Nat) (h : n < 10 ^ 19) : (natDigits n).toAscii.length ≤ maxIntDigits := by
  rw [natDigits_toAscii, List.length_map]
  have := (Nat.length_toDigits_le_iff (b := 10) (n := n) (k := 19) (by decide) (by decide)).mpr h
  unfold maxIntDigits
  omega

theorem convert_natDigits (n : Nat) (h : n < 10 ^ 19) : convert (natDigits n).toAscii = .int n :=
  (convert_plain _ (natDigits_ne_nil n) (natDigits_isDigit n) (natDigits_length n h)).1.trans
    (by rw [natDigits_val])

theorem intText_nonneg (i : Int) (h : 0 ≤ i) : intText i = natDigits i.toNat := by
  unfold intText
  rw [if_neg (by omega)]

theorem maxRead_lt : Reader.maxRead < 10 ^ 19 := by
  unfold Reader.maxRead; decide

theorem convert_int (i : Int) (h0 : 0 ≤ i) (hb : i.toNat ≤ Reader.maxRead) :
    convert (HVal.int i).text.toAscii = .int i := by
  show convert (intText i).toAscii = _
  rw [intText_nonneg i h0, convert_natDigits _ (Nat.lt_of_le_of_lt hb maxRead_lt), Int.toNat_of_nonneg h0]

theorem convert_nat (n : Nat) (hn : n ≤ Reader.maxRead) : convert (HVal.int n).text.toAscii = .int n :=
  convert_int n (Int.natCast_nonneg n) (by rw [Int.toNat_natCast]; exact hn)

theorem convert_indent (indent : Option Int) (h : ∀ i, indent = some i → 0 ≤ i ∧ i.toNat ≤ Reader.maxRead) :
    (indent.map HVal.int).map (fun v => convert v.text.toAscii) = indent.map OptVal.int := by
  cases indent with
  | none => rfl
  | some i =>
    simp only [Option.map_some]
    rw [convert_int i (h i rfl).1 (h i rfl).2]

theorem convert_leKind (dos : Bool) : convert (HVal.str (leKind dos)).text.toAscii = .str (leKind dos).toAscii := by
  cases dos <;> decide

theorem presentOpts_keys_nodup (opts : List (Bytes × Option HVal)) (h : (opts.map (·.1)).Nodup) :
    ((presentOpts opts).map (·.1)).Nodup := by
  induction opts with
  | nil => simp [presentOpts]
  | cons p r ih =>
    rw [List.map_cons, List.nodup_cons] at h
    obtain ⟨k, o⟩ := p
    cases o with
    | none => exact ih h.2
    | some v =>
      have e : presentOpts ((k, some v) :: r) = (k, v) :: presentOpts r := rfl
      rw [e, List.map_cons, List.nodup_cons]
      refine ⟨?_, ih h.2⟩
      intro hm
      obtain ⟨⟨k', v'⟩, hm', rfl⟩ := List.mem_map.mp hm
      exact h.1 (List.mem_map.mpr ⟨(k', some v'), mem_presentOpts.mp hm', rfl⟩)

theorem writtenPairs_eq (opts : List (Bytes × Option HVal)) :
    C02.writtenPairs opts = (sortOpts (presentOpts opts)).map (fun p => (p.1, p.2.text.toAscii)) := rfl

theorem mem_writtenPairs (opts : List (Bytes × Option HVal)) (x : Bytes × Bytes) :
    x ∈ C02.writtenPairs opts ↔ ∃ v, (x.1, some v) ∈ opts ∧ x.2 = v.text.toAscii := by
  rw [writtenPairs_eq, List.mem_map]
  constructor
  · rintro ⟨⟨k, v⟩, hm, rfl⟩
    exact ⟨v, mem_presentOpts.mp (sortOpts_perm.mem_iff.mp hm), rfl⟩
  · rintro ⟨v, hm, he⟩
    refine ⟨(x.1, v), sortOpts_perm.mem_iff.mpr (mem_presentOpts.mpr hm), ?_⟩
    obtain ⟨a, b⟩ := x
    simp only at he ⊢
    rw [he]

theorem writtenPairs_keys_nodup (opts : List (Bytes × Option HVal)) (h : (opts.map (·.1)).Nodup) :
    ((C02.writtenPairs opts).map (·.1)).Nodup := by
  rw [writtenPairs_eq, List.map_map]
  have e : ((fun p : Bytes × Bytes => p.1) ∘ fun p : Bytes × HVal => (p.1, p.2.text.toAscii)) =
      fun p : Bytes × HVal => p.1 := rfl
  rw [e]
  exact (sortOpts_perm.map _).nodup_iff.mpr (presentOpts_keys_nodup opts h)

theorem writtenPairs_sorted (opts : List (Bytes × Option HVal)) :
    ((C02.writtenPairs opts).map (·.1)).Pairwise (· ≤ ·) := by
  rw [writtenPairs_eq, List.map_map, List.pairwise_map]
  exact sortOpts_sorted _

/-- `dict.get` on the option list handed to `_write_section_header` (`None` = absent) -/
def optLookup (opts : List (Bytes × Option HVal)) (k : Bytes) : Option HVal :=
  (opts.find? (·.1 == k)).bind (·.2)

theorem optLookup_cons_self (k : Bytes) (v : Option HVal) (l : List (Bytes × Option HVal)) :
    optLookup ((k, v) :: l) k = v := by
  unfold optLookup
  rw [List.find?_cons_of_pos (by simp)]
  rfl

theorem optLookup_cons_ne {k' k : Bytes} {v : Option HVal} {l : List (Bytes × Option HVal)} (h : k' ≠ k) :
    optLookup ((k', v) :: l) k = optLookup l k := by
  unfold optLookup
  rw [List.find?_cons_of_neg (by simpa using h)]

theorem optLookup_mem {opts : List (Bytes × Option HVal)} {k : Bytes} {v : HVal} (h : optLookup opts k = some v) :
    (k, some v) ∈ opts := by
  unfold optLookup at h
  obtain ⟨p, hf, hp⟩ := Option.bind_eq_some_iff.mp h
  have hk : p.1 = k := by simpa using List.find?_some hf
  rw [← hk, ← hp]
  exact List.mem_of_find?_eq_some hf

theorem Conform.written_get (opts : List (Bytes × Option HVal)) (h : (opts.map (·.1)).Nodup) (k : Bytes) :
    (C02.writtenPairs opts).lookup k = (optLookup opts k).map (fun v => v.text.toAscii) := by
  cases hl : optLookup opts k with
  | none =>
    rw [Option.map_none]
    apply Assoc.lookup_none_iff.2
    intro hm
    obtain ⟨x, hx, rfl⟩ := List.mem_map.mp hm
    obtain ⟨v, hv, _⟩ := (mem_writtenPairs opts x).mp hx
    unfold optLookup at hl
    rw [Assoc.find?_of_mem_nodup h hv] at hl
    cases hl
  | some v =>
    rw [Option.map_some]
    exact Assoc.lookup_of_mem_nodup (writtenPairs_keys_nodup opts h)
      ((mem_writtenPairs opts (k, v.text.toAscii)).mpr ⟨v, optLookup_mem hl, rfl⟩)

theorem reported_written_get (opts : List (Bytes × Option HVal)) (h : (opts.map (·.1)).Nodup) (k : Bytes) :
    (Spec.reported (C02.writtenPairs opts)).get k =
      (optLookup opts k).map (fun v => convert v.text.toAscii) := by
  rw [reported_eq_map (writtenPairs_keys_nodup opts h)]
  exact (Assoc.lookup_map_snd convert _ k).trans (by rw [Conform.written_get opts h k, Option.map_map]; rfl)

/-- `hk`: the keys are constants of each call, decided where it is made -/
theorem written_grammar {sec : SecId} {opts : List (Bytes × Option HVal)} {h : Bytes}
    (hr : renderHeader sec opts = .ok h) (hk : ∀ p ∈ opts, keyOk p.1 = true) :
    ∀ x ∈ C02.writtenPairs opts, keyOk x.1 = true ∧ valOk x.2 = true := by
  intro x hx
  obtain ⟨v, hv, _⟩ := (mem_writtenPairs opts x).mp hx
  exact ⟨hk _ hv, (C02.C02_written_values_ok sec opts h hr).1 x hx⟩

theorem written_str {sec : SecId} {opts : List (Bytes × Option HVal)} {h : Bytes}
    (hr : renderHeader sec opts = .ok h) {k : Bytes} {t : Text} (hm : (k, some (HVal.str t)) ∈ opts) :
    convert t.toAscii = .str t.toAscii :=
  (C02.C02_written_values_ok sec opts h hr).2 k t hm

theorem Conform.renderSec_written {sec : SecId} {opts : List (Bytes × Option HVal)} {header : Bytes} (data : Bytes)
    (hr : renderHeader sec opts = .ok header) :
    Spec.renderSec false ⟨sec, C02.writtenPairs opts, [], data⟩ = header ++ data := by
  obtain ⟨hh, _, _⟩ := C02.C02_header sec opts header hr
  rw [hh]
  simp [Spec.renderSec, Spec.renderBlank, Spec.headerNl]

theorem written_step {env : Env} {cfg : Config} {chunk : Nat} (hc : 0 < chunk) {l : Reader.Loop}
    (hcr : l.st.fileCrlf = none ∨ l.st.fileCrlf = some false)
    {sec : SecId} {opts : List (Bytes × Option HVal)} {header : Bytes} (data : Bytes) {post : Bytes}
    (hr : renderHeader sec opts = .ok header) (hs : sec ∈ l.valid) (hlvl : sec.level ≤ 3)
    (hk : ∀ p ∈ opts, keyOk p.1 = true) (hnd : (opts.map (·.1)).Nodup)
    (hrest : l.st.rest = header ++ data ++ post) :
    Reader.stepSection env cfg chunk l =
      Reader.stepHdr env cfg l.encodings l.prevLevel ⟨sec, Spec.reported (C02.writtenPairs opts)⟩ l.st.linenum
        ⟨data ++ post, l.st.linenum + 1, some false⟩ := by
  have h := Reader.stepSection_rendered (env := env) (cfg := cfg) hc
    (s := ⟨sec, C02.writtenPairs opts, [], data⟩) hs
    ⟨hlvl, written_grammar hr hk⟩ (writtenPairs_keys_nodup opts hnd) (by intro x hx; cases hx)
    hcr (by rw [Conform.renderSec_written data hr]; exact hrest)
  rw [h, reported_eq_map (writtenPairs_keys_nodup opts hnd)]
  rfl

end Diffx
