import DiffxVerif.Spec.HeaderGrammar
import DiffxVerif.Lemmas.Assoc
import DiffxVerif.Lemmas.Basic
/-!
# `parseHeader` (`Model/Header.lean`) against the header grammar (`Spec/HeaderGrammar.lean`)

`parseHeader` accepts exactly the renderings of grammatical headers (`parseHeader_headerLine`,
`parseHeader_ok_grammar`); the column of an option error lies inside the header (`parseHeader_col`,
for the reader's error positions).
-/
namespace Diffx.Header
open Diffx

/-- core has no `DecidableEq (Except ε α)`; the `decide` tests at the end of
`Properties/C11.lean` compare `parseHeader` results -/
instance : DecidableEq (Except Err Hdr)
  | .ok x, .ok y => if h : x = y then isTrue (h ▸ rfl) else isFalse (fun e => h (Except.ok.inj e))
  | .error x, .error y =>
    if h : x = y then isTrue (h ▸ rfl) else isFalse (fun e => h (Except.error.inj e))
  | .ok _, .error _ => isFalse (fun e => by cases e)
  | .error _, .ok _ => isFalse (fun e => by cases e)

/-- the character class of the structural regex `[^\s,]` -/
def shapeChar (b : UInt8) : Bool := !(isWs b) && b != 44

theorem keyFirst_keyRest {b : UInt8} (h : keyFirst b = true) : keyRest b = true := by
  simp only [keyFirst] at h
  simp [keyRest, h]

theorem keyRest_valChar {b : UInt8} (h : keyRest b = true) : valChar b = true := by
  simp only [keyRest, Bool.or_eq_true] at h
  rcases h with ((h | h) | h) | h <;> simp [valChar, h]

theorem valChar_facts : ∀ b : UInt8, valChar b = true → b ≠ 61 ∧ b ≠ 44 ∧ shapeChar b = true := by
  apply forall_u8; decide +kernel

theorem keyFirst_ne_dot : ∀ b : UInt8, keyFirst b = true → b ≠ 46 := by
  apply forall_u8; decide +kernel

theorem special_not_digit : ∀ b : UInt8, (isAlpha b = true ∨ b = 46 ∨ b = 47) →
    isDigit b = false ∧ (b == 95) = false ∧ b ≠ 45 := by
  apply forall_u8; decide +kernel

theorem digit_ne_45 : ∀ b : UInt8, isDigit b = true → b ≠ 45 := by
  apply forall_u8; decide +kernel

theorem keyOk_facts {k : Bytes} (h : keyOk k = true) : k ≠ [] ∧ ∀ b ∈ k, keyRest b = true := by
  cases k with
  | nil => simp [keyOk] at h
  | cons a r =>
    simp only [keyOk, Bool.and_eq_true, List.all_eq_true] at h
    refine ⟨by simp, ?_⟩
    intro b hb
    rcases List.mem_cons.mp hb with rfl | hb
    · exact keyFirst_keyRest h.1
    · exact h.2 b hb

theorem keyOk_valChar {k : Bytes} (h : keyOk k = true) : ∀ b ∈ k, valChar b = true :=
  fun b hb => keyRest_valChar ((keyOk_facts h).2 b hb)

theorem valOk_facts {v : Bytes} (h : valOk v = true) : v ≠ [] ∧ ∀ b ∈ v, valChar b = true := by
  simp only [valOk, Bool.and_eq_true, List.all_eq_true, Bool.not_eq_true', List.isEmpty_eq_false_iff] at h
  exact h

theorem splitEq1_append (cur k v : Bytes) (hk : ∀ b ∈ k, b ≠ 61) :
    splitEq1 cur (k ++ 61 :: v) = some (cur.reverse ++ k, v) := by
  induction k generalizing cur with
  | nil => simp [splitEq1]
  | cons a r ih =>
    have ha : a ≠ 61 := hk a (by simp)
    rw [List.cons_append, splitEq1.eq_3 _ _ _ (by simpa using ha), ih _ (fun b hb => hk b (by simp [hb]))]
    simp

theorem splitEq1_some {cur p k v : Bytes} (h : splitEq1 cur p = some (k, v)) :
    ∃ k', k = cur.reverse ++ k' ∧ p = k' ++ 61 :: v := by
  induction p generalizing cur with
  | nil => simp [splitEq1] at h
  | cons a r ih =>
    by_cases ha : a = 61
    · subst ha
      rw [splitEq1.eq_2] at h
      simp only [Option.some.injEq, Prod.mk.injEq] at h
      exact ⟨[], by simp [h.1], by simp [h.2]⟩
    · rw [splitEq1.eq_3 _ _ _ (by simpa using ha)] at h
      obtain ⟨k', hk, hp⟩ := ih h
      exact ⟨a :: k', by simp [hk], by simp [hp]⟩

/-- `b', '.join(pieces)` -/
def joinB : List Bytes → Bytes
  | [] => []
  | [p] => p
  | p :: ps => p ++ [44, 32] ++ joinB ps

theorem joinB_cons (p : Bytes) {ps : List Bytes} (h : ps ≠ []) :
    joinB (p :: ps) = p ++ [44, 32] ++ joinB ps := by
  cases ps with
  | nil => exact absurd rfl h
  | cons q qs => rfl

theorem joinPairs_eq (pairs : List (Bytes × Bytes)) :
    Spec.joinPairs pairs = joinB (pairs.map Spec.renderPair) := by
  induction pairs with
  | nil => rfl
  | cons p ps ih =>
    cases ps with
    | nil => rfl
    | cons q qs => simp only [Spec.joinPairs, List.map_cons, joinB] at ih ⊢; rw [ih]

theorem splitCommaSpace_ne_nil (cur o : Bytes) : splitCommaSpace cur o ≠ [] := by
  fun_induction splitCommaSpace cur o <;> simp_all

theorem joinB_splitCommaSpace (cur o : Bytes) : joinB (splitCommaSpace cur o) = cur.reverse ++ o := by
  fun_induction splitCommaSpace cur o with
  | case1 cur => simp [joinB]
  | case2 cur r ih =>
    rw [joinB_cons _ (splitCommaSpace_ne_nil _ _), ih]; simp
  | case3 cur b r h ih => rw [ih]; simp

theorem splitCommaSpace_skip (cur : Bytes) {x : Bytes} (rest : Bytes) (hx : ∀ b ∈ x, b ≠ 44) :
    splitCommaSpace cur (x ++ rest) = splitCommaSpace (x.reverse ++ cur) rest := by
  induction x generalizing cur with
  | nil => rfl
  | cons a r ih =>
    have ha : a ≠ 44 := hx a (by simp)
    rw [List.cons_append, splitCommaSpace.eq_3 _ _ _ (fun _ h _ => ha h),
      ih _ (fun b hb => hx b (by simp [hb]))]
    simp

theorem splitCommaSpace_joinB (ps : List Bytes) (hne : ps ≠ [])
    (h : ∀ p ∈ ps, ∀ b ∈ p, b ≠ 44) : splitCommaSpace [] (joinB ps) = ps := by
  induction ps with
  | nil => exact absurd rfl hne
  | cons p qs ih =>
    cases qs with
    | nil =>
      have := splitCommaSpace_skip [] [] (h p (by simp))
      simpa [joinB, splitCommaSpace] using this
    | cons q qs =>
      rw [joinB_cons _ (by simp)]
      simp only [List.append_assoc, List.cons_append, List.nil_append]
      rw [splitCommaSpace_skip _ _ (h p (by simp)), splitCommaSpace,
        ih (by simp) (fun p' hp' => h p' (by simp [hp']))]
      simp

theorem renderPair_split {p : Bytes × Bytes} (hk : keyOk p.1 = true) :
    splitEq1 [] (Spec.renderPair p) = some p := by
  have := splitEq1_append [] p.1 p.2 (fun b hb => (valChar_facts b (keyOk_valChar hk b hb)).1)
  simpa [Spec.renderPair] using this

theorem renderPair_chars {p : Bytes × Bytes} (h : keyOk p.1 = true ∧ valOk p.2 = true) :
    ∀ b ∈ Spec.renderPair p, b ≠ 44 := by
  intro b hb
  simp only [Spec.renderPair, List.mem_append, List.mem_singleton] at hb
  rcases hb with (hb | rfl) | hb
  · exact (valChar_facts b (keyOk_valChar h.1 b hb)).2.1
  · decide
  · exact (valChar_facts b ((valOk_facts h.2).2 b hb)).2.1

theorem renderPair_shape {p : Bytes × Bytes} (h : keyOk p.1 = true ∧ valOk p.2 = true) :
    pairShape (Spec.renderPair p) = true := by
  have hkf := keyOk_facts h.1
  have hvf := valOk_facts h.2
  simp only [pairShape, renderPair_split h.1, Bool.and_eq_true, Bool.not_eq_true',
    List.isEmpty_eq_false_iff, List.all_eq_true]
  refine ⟨⟨⟨hkf.1, ?_⟩, hvf.1⟩, ?_⟩
  · intro b hb; simpa [shapeChar] using (valChar_facts b (keyOk_valChar h.1 b hb)).2.2
  · intro b hb; simpa [shapeChar] using (valChar_facts b (hvf.2 b hb)).2.2

theorem _root_.Diffx.Opts.get_set (o : Opts) (k k' : Bytes) (v : OptVal) :
    (o.set k v).get k' = if k' == k then some v else o.get k' :=
  Assoc.lookup_set o k k' v

theorem _root_.Diffx.Opts.get_set_self (o : Opts) (k : Bytes) (v : OptVal) : (o.set k v).get k = some v := by
  rw [Opts.get_set, if_pos (beq_self_eq_true k)]

theorem _root_.Diffx.Opts.get_set_ne (o : Opts) {k k' : Bytes} (v : OptVal) (hne : k' ≠ k) :
    (o.set k v).get k' = o.get k' := by
  rw [Opts.get_set, if_neg (by simpa using hne)]

/-- the dictionary the option loop builds on top of `acc`; `Spec.reported` is `reportedFrom []` -/
def reportedFrom (acc : Opts) (pairs : List (Bytes × Bytes)) : Opts :=
  pairs.foldl (fun o p => o.set p.1 (convert p.2)) acc

theorem reportedFrom_cons (acc : Opts) (p : Bytes × Bytes) (ps : List (Bytes × Bytes)) :
    reportedFrom acc (p :: ps) = reportedFrom (acc.set p.1 (convert p.2)) ps := rfl

theorem reportedFrom_append (acc : Opts) (ps qs : List (Bytes × Bytes)) :
    reportedFrom acc (ps ++ qs) = reportedFrom (reportedFrom acc ps) qs := List.foldl_append ..

theorem reportedFrom_get_notin {pairs : List (Bytes × Bytes)} (acc : Opts) {k : Bytes}
    (hk : k ∉ pairs.map (·.1)) :
    (reportedFrom acc pairs).get k = acc.get k := by
  induction pairs generalizing acc with
  | nil => rfl
  | cons p ps ih =>
    simp only [List.map_cons, List.mem_cons, not_or] at hk
    rw [reportedFrom_cons, ih _ hk.2, Opts.get_set_ne _ _ hk.1]

theorem reportedFrom_get_congr (ps : List (Bytes × Bytes)) {acc₁ acc₂ : Opts} {k' : Bytes}
    (h : acc₁.get k' = acc₂.get k') :
    (reportedFrom acc₁ ps).get k' = (reportedFrom acc₂ ps).get k' := by
  induction ps generalizing acc₁ acc₂ with
  | nil => exact h
  | cons p ps ih => exact ih (by rw [Opts.get_set, Opts.get_set, h])

theorem reportedFrom_fresh {pairs : List (Bytes × Bytes)} (acc : Opts) (hd : (pairs.map (·.1)).Nodup)
    (hf : ∀ p ∈ pairs, ∀ q ∈ acc, q.1 ≠ p.1) :
    reportedFrom acc pairs =
      acc ++ pairs.map (fun p => (p.1, convert p.2)) := by
  induction pairs generalizing acc with
  | nil => simp [reportedFrom]
  | cons p ps ih =>
    rw [List.map_cons, List.nodup_cons] at hd
    have hfresh : acc.any (·.1 == p.1) = false :=
      List.any_eq_false.2 fun q hq => by simpa using hf p (by simp) q hq
    have hset : acc.set p.1 (convert p.2) = acc ++ [(p.1, convert p.2)] := by
      simp only [Opts.set, hfresh, Bool.false_eq_true, if_false]
    rw [reportedFrom_cons, hset, ih _ hd.2]
    · simp
    · intro p' hp' q hq
      rcases List.mem_append.mp hq with hq | hq
      · exact hf p' (List.mem_cons_of_mem _ hp') q hq
      · simp only [List.mem_singleton] at hq
        subst hq
        intro e
        exact hd.1 (List.mem_map.mpr ⟨p', hp', e.symm⟩)

theorem reported_eq_map {pairs : List (Bytes × Bytes)} (hd : (pairs.map (·.1)).Nodup) :
    Spec.reported pairs = pairs.map (fun p => (p.1, convert p.2)) := by
  exact reportedFrom_fresh [] hd (by intro _ _ q hq; cases hq)

theorem reported_get_eq {pairs : List (Bytes × Bytes)} (hd : (pairs.map (·.1)).Nodup) (k : Bytes) :
    (Spec.reported pairs).get k = (pairs.lookup k).map convert := by
  rw [reported_eq_map hd]
  exact Assoc.lookup_map_snd convert pairs k

theorem parseOpts_render (h : Bytes) {pairs : List (Bytes × Bytes)} (acc : Opts)
    (hp : ∀ p ∈ pairs, keyOk p.1 = true ∧ valOk p.2 = true) :
    parseOpts h (pairs.map Spec.renderPair) acc =
      .ok (reportedFrom acc pairs) := by
  induction pairs generalizing acc with
  | nil => rfl
  | cons p ps ih =>
    have hp1 := hp p (by simp)
    simp only [List.map_cons, parseOpts, renderPair_split hp1.1, hp1.1, hp1.2, reportedFrom_cons]
    exact ih _ (fun q hq => hp q (by simp [hq]))

theorem parseOpts_ok {h : Bytes} {pieces : List Bytes} {acc opts : Opts}
    (hok : parseOpts h pieces acc = .ok opts) :
    ∃ pairs : List (Bytes × Bytes), pieces = pairs.map Spec.renderPair ∧
      (∀ p ∈ pairs, keyOk p.1 = true ∧ valOk p.2 = true) ∧
      opts = reportedFrom acc pairs := by
  induction pieces generalizing acc with
  | nil =>
    simp only [parseOpts, Except.ok.injEq] at hok
    exact ⟨[], rfl, by simp, hok.symm⟩
  | cons p ps ih =>
    simp only [parseOpts] at hok
    split at hok
    · cases hok
    · rename_i k v hs
      split at hok
      · cases hok
      · rename_i hk
        split at hok
        · cases hok
        · rename_i hv
          simp only [Bool.not_eq_true, Bool.not_eq_false'] at hk hv
          obtain ⟨pairs, hps, hall, hopts⟩ := ih hok
          obtain ⟨k', hk', hp'⟩ := splitEq1_some hs
          simp only [List.reverse_nil, List.nil_append] at hk'
          subst hk'
          refine ⟨(k, v) :: pairs, ?_, ?_, ?_⟩
          · simp [hps, hp', Spec.renderPair]
          · intro q hq
            rcases List.mem_cons.mp hq with rfl | hq
            · exact ⟨hk, hv⟩
            · exact hall q hq
          · exact hopts

theorem takeWhile_dots (l : Nat) (n : SecName) (tail : Bytes) :
    (List.replicate l (46 : UInt8) ++ (n.bytes ++ 58 :: tail)).takeWhile (· == 46) =
      List.replicate l 46 := by
  rw [List.takeWhile_append_of_pos (by simp)]
  cases n <;> simp [SecName.bytes]

theorem find_name (n : SecName) (tail : Bytes) :
    SecName.all.find? (fun m => (m.bytes ++ [58]).isPrefixOf (n.bytes ++ 58 :: tail)) = some n := by
  cases n <;> rfl

/-- the last stage of `structure?`: what follows the colon -/
def tailCase (l : Nat) (n : SecName) (t : Bytes) : Option (SecId × Option Bytes) :=
  match t with
  | [] => some (⟨l, n⟩, none)
  | 32 :: o =>
    if !o.isEmpty && (splitCommaSpace [] o).all pairShape then some (⟨l, n⟩, some o) else none
  | _ => none

theorem structure_build {l : Nat} (n : SecName) (tail : Bytes) (hl : l ≤ 3) :
    structure? (35 :: (List.replicate l 46 ++ (n.bytes ++ 58 :: tail))) = tailCase l n tail := by
  have hd : List.drop l (List.replicate l (46 : UInt8) ++ (n.bytes ++ 58 :: tail)) = n.bytes ++ 58 :: tail := by
    simp
  have hd2 : List.drop (n.bytes.length + 1) (n.bytes ++ 58 :: tail) = tail := by
    simp
  simp only [structure?, takeWhile_dots, List.length_replicate, hd, find_name, hd2]
  rw [if_neg (by omega)]
  rfl

theorem dots_append_drop (r : Bytes) :
    r = List.replicate (r.takeWhile (· == 46)).length 46 ++ r.drop (r.takeWhile (· == 46)).length := by
  induction r with
  | nil => rfl
  | cons a r ih =>
    by_cases ha : a = 46
    · subst ha
      simp only [List.takeWhile_cons, beq_self_eq_true, if_true, List.length_cons, List.replicate_succ,
        List.drop_succ_cons, List.cons_append]
      rw [← ih]
    · have : (a == 46) = false := by simpa using ha
      simp [this]

/-- what follows the colon of a header line: nothing, or a space and the options -/
def optTail : Option Bytes → Bytes
  | none => []
  | some o => 32 :: o

theorem tailCase_some {l : Nat} {n : SecName} {t : Bytes} {sec : SecId} {o : Option Bytes} :
    tailCase l n t = some (sec, o) →
    sec = ⟨l, n⟩ ∧ t = optTail o ∧
      ∀ o', o = some o' → o' ≠ [] ∧ (splitCommaSpace [] o').all pairShape = true := by
  unfold tailCase
  split
  · intro hs
    simp only [Option.some.injEq, Prod.mk.injEq] at hs
    obtain ⟨rfl, rfl⟩ := hs
    exact ⟨rfl, rfl, by simp⟩
  · split
    · rename_i hc
      intro hs
      simp only [Option.some.injEq, Prod.mk.injEq] at hs
      obtain ⟨rfl, rfl⟩ := hs
      refine ⟨rfl, rfl, ?_⟩
      intro o'' ho
      cases ho
      simpa using hc
    · intro hs; cases hs
  · intro hs; cases hs

theorem structure_some {h : Bytes} {sec : SecId} {o : Option Bytes}
    (hs : structure? h = some (sec, o)) :
    sec.level ≤ 3 ∧
    h = (35 : UInt8) :: (List.replicate sec.level (46 : UInt8) ++ (sec.name.bytes ++ (58 : UInt8) :: optTail o)) ∧
    ∀ o', o = some o' → o' ≠ [] ∧ (splitCommaSpace [] o').all pairShape = true := by
  unfold structure? at hs
  split at hs
  · rename_i r
    simp only at hs
    split at hs
    · cases hs
    · rename_i hdots
      split at hs
      · cases hs
      · rename_i n hfind
        have hpre := List.find?_some hfind
        rw [List.isPrefixOf_iff_prefix] at hpre
        obtain ⟨t, ht⟩ := hpre
        have hr := dots_append_drop r
        rw [← ht] at hs
        have hd2 : List.drop (n.bytes.length + 1) (n.bytes ++ [58] ++ t) = t := by simp
        rw [hd2] at hs
        obtain ⟨rfl, rfl, h3⟩ := tailCase_some hs
        refine ⟨by simp only; omega, ?_, h3⟩
        simp only
        simp only [List.append_assoc, List.cons_append, List.nil_append] at ht
        rw [ht, ← hr]
  · cases hs

theorem convert_str_inj {v w : Bytes} (h : convert v = .str w) : v = w := by
  unfold convert at h
  split at h
  · cases h
  · cases h; rfl

theorem digitsUnd_digits (prev : Bool) {ds : Bytes} (hd : ∀ b ∈ ds, isDigit b = true) :
    digitsUnd prev ds = (prev || !ds.isEmpty) := by
  induction ds generalizing prev with
  | nil => simp [digitsUnd]
  | cons a r ih =>
    have ha := hd a (by simp)
    unfold digitsUnd
    rw [if_pos ha, ih _ (fun b hb => hd b (by simp [hb]))]
    simp

theorem digitsUnd_special (prev : Bool) {v : Bytes} {b : UInt8} (hb : b ∈ v)
    (hc : isDigit b = false ∧ (b == 95) = false) : digitsUnd prev v = false := by
  induction v generalizing prev with
  | nil => simp at hb
  | cons a r ih =>
    unfold digitsUnd
    rcases List.mem_cons.mp hb with rfl | hb
    · simp [hc.1, hc.2]
    · split
      · exact ih _ hb                    -- a digit
      · split
        · split                          -- an underscore after a digit: `isDigit c && digitsUnd false r`
          · rw [ih _ hb]; simp
          · rfl
        · rfl

theorem pyIntOk_cons_ne {a : UInt8} (r : Bytes) (ha : a ≠ 45) :
    pyIntOk (a :: r) = (digitsUnd false (a :: r) &&
      decide (((a :: r).filter isDigit).length ≤ maxIntDigits)) := by
  unfold pyIntOk
  simp only
  split
  · rename_i h; injection h with h1 _; exact absurd h1 ha
  · rfl

theorem pyIntVal_cons_ne {a : UInt8} (r : Bytes) (ha : a ≠ 45) :
    pyIntVal (a :: r) = (digitsVal ((a :: r).filter isDigit) : Int) := by
  unfold pyIntVal
  split
  rename_i neg ds h
  split at h
  · rename_i heq; injection heq with h1 _; exact absurd h1 ha
  · cases h; simp

theorem convert_plain (ds : Bytes) (hne : ds ≠ []) (hd : ∀ b ∈ ds, isDigit b = true)
    (hl : ds.length ≤ maxIntDigits) :
    convert ds = .int (digitsVal ds) ∧ convert (45 :: ds) = .int (-(digitsVal ds : Int)) := by
  have hf : ds.filter isDigit = ds := List.filter_eq_self.mpr hd
  have hdu : digitsUnd false ds = true := by
    rw [digitsUnd_digits _ hd]; cases ds with
    | nil => exact absurd rfl hne
    | cons a r => rfl
  constructor
  · cases ds with
    | nil => exact absurd rfl hne
    | cons a r =>
      have ha : a ≠ 45 := digit_ne_45 a (hd a (by simp))
      have hok : pyIntOk (a :: r) = true := by
        rw [pyIntOk_cons_ne r ha, hdu, hf]
        simpa using hl
      have hval : pyIntVal (a :: r) = (digitsVal (a :: r) : Int) := by
        rw [pyIntVal_cons_ne r ha, hf]
      simp only [convert, hok, if_true, hval]
  · have hok : pyIntOk (45 :: ds) = true := by
      simp only [pyIntOk, hdu, hf, Bool.true_and, decide_eq_true_eq]
      exact hl
    have hval : pyIntVal (45 :: ds) = -(digitsVal ds : Int) := by
      simp [pyIntVal, hf]
    simp only [convert, hok, if_true, hval]

theorem headerLine_eq (sec : SecId) (pairs : List (Bytes × Bytes)) :
    Spec.headerLine sec pairs =
      (35 : UInt8) :: (List.replicate sec.level (46 : UInt8) ++ (sec.name.bytes ++ (58 : UInt8) ::
        optTail (if pairs.isEmpty then none else some (Spec.joinPairs pairs)))) := by
  cases pairs <;> simp [Spec.headerLine, SecId.bytes, optTail]

theorem joinPairs_ne_nil (p : Bytes × Bytes) (ps : List (Bytes × Bytes)) :
    Spec.joinPairs (p :: ps) ≠ [] := by
  cases ps <;> simp [Spec.joinPairs, Spec.renderPair]

theorem split_joinPairs {pairs : List (Bytes × Bytes)} (hne : pairs ≠ [])
    (hp : ∀ p ∈ pairs, keyOk p.1 = true ∧ valOk p.2 = true) :
    splitCommaSpace [] (Spec.joinPairs pairs) = pairs.map Spec.renderPair := by
  rw [joinPairs_eq]
  apply splitCommaSpace_joinB
  · simpa using hne
  · intro q hq
    obtain ⟨p, hpm, rfl⟩ := List.mem_map.mp hq
    exact renderPair_chars (hp p hpm)

theorem parseHeader_headerLine {valid : List SecId} {sec : SecId} {pairs : List (Bytes × Bytes)}
    (hg : Spec.GrammarOk sec pairs) (hv : sec ∈ valid) :
    parseHeader valid (Spec.headerLine sec pairs) = .ok ⟨sec, Spec.reported pairs⟩ := by
  obtain ⟨hl, hp⟩ := hg
  have hc : valid.contains sec = true := by simpa using hv
  cases pairs with
  | nil =>
    have hs : structure? (Spec.headerLine sec []) = some (sec, none) := by
      rw [headerLine_eq, structure_build _ _ hl]; rfl
    simp only [parseHeader, hs, hc]
    rfl
  | cons p ps =>
    have hsplit := split_joinPairs (by simp) hp
    have hs : structure? (Spec.headerLine sec (p :: ps)) = some (sec, some (Spec.joinPairs (p :: ps))) := by
      rw [headerLine_eq, structure_build _ _ hl]
      simp only [List.isEmpty_cons, optTail, Bool.false_eq_true, if_false, tailCase]
      rw [if_pos]
      rw [hsplit]
      simp only [Bool.and_eq_true, Bool.not_eq_true', List.isEmpty_eq_false_iff, List.all_eq_true]
      refine ⟨joinPairs_ne_nil p ps, ?_⟩
      intro q hq
      obtain ⟨p', hpm, rfl⟩ := List.mem_map.mp hq
      exact renderPair_shape (hp p' hpm)
    simp only [parseHeader, hs, hc, hsplit, parseOpts_render _ _ hp]
    rfl

theorem parseHeader_ok_grammar {valid : List SecId} {h : Bytes} {hdr : Hdr}
    (hok : parseHeader valid h = .ok hdr) :
    ∃ pairs, Spec.GrammarOk hdr.sec pairs ∧ h = Spec.headerLine hdr.sec pairs ∧
      hdr.sec ∈ valid ∧ hdr.opts = Spec.reported pairs := by
  unfold parseHeader at hok
  split at hok
  · cases hok
  · rename_i sec o hs
    obtain ⟨hl, hh, ho⟩ := structure_some hs
    split at hok
    · cases hok
    · rename_i hc
      have hv : sec ∈ valid := by simpa using hc
      cases o with
      | none =>
        simp only [Except.ok.injEq] at hok
        subst hok
        refine ⟨[], ⟨hl, by simp⟩, ?_, hv, rfl⟩
        rw [headerLine_eq]; exact hh
      | some o =>
        simp only at hok
        split at hok
        · rename_i opts hpo
          simp only [Except.ok.injEq] at hok
          subst hok
          obtain ⟨pairs, hpieces, hall, hopts⟩ := parseOpts_ok hpo
          have hne : pairs ≠ [] := by
            intro hnil
            subst hnil
            exact splitCommaSpace_ne_nil _ _ hpieces
          have hjoin : Spec.joinPairs pairs = o := by
            rw [joinPairs_eq, ← hpieces, joinB_splitCommaSpace]; rfl
          refine ⟨pairs, ⟨hl, hall⟩, ?_, hv, hopts⟩
          rw [headerLine_eq, hjoin]
          cases pairs with
          | nil => exact absurd rfl hne
          | cons p ps => exact hh
        · cases hok

theorem parseOpts_ne_badSection (h : Bytes) (ps : List Bytes) (acc : Opts) :
    parseOpts h ps acc ≠ .error .badSection := by
  induction ps generalizing acc with
  | nil => simp [parseOpts]
  | cons p ps ih =>
    unfold parseOpts
    split
    · simp
    · split
      · simp
      · split
        · simp
        · exact ih _

theorem splitEq1_length {cur p k v : Bytes} (h : splitEq1 cur p = some (k, v)) :
    cur.length + p.length = k.length + 1 + v.length := by
  obtain ⟨k', rfl, rfl⟩ := splitEq1_some h
  simp only [List.length_append, List.length_reverse, List.length_cons]
  omega

theorem splitCommaSpace_length (cur o : Bytes) :
    ∀ p ∈ splitCommaSpace cur o, p.length ≤ cur.length + o.length := by
  fun_induction splitCommaSpace cur o
  · simp
  · rename_i ih
    intro p hp
    simp at hp
    rcases hp with rfl | hp
    · simp
    · have := ih p hp; simp at this ⊢; omega
  · rename_i ih
    intro p hp
    have := ih p hp; simp at this ⊢; omega

/-- the column an option error carries, if any, is at most `n` -/
def Err.colLe (n : Nat) : Err → Prop
  | .badKey c => c ≤ n
  | .badVal c => c ≤ n
  | _ => True

theorem parseOpts_col {header : Bytes} {ps : List Bytes} {acc : Opts} {e : Err}
    (hps : ∀ p ∈ ps, p.length ≤ header.length)
    (h : parseOpts header ps acc = .error e) : e.colLe header.length := by
  induction ps generalizing acc with
  | nil => simp [parseOpts] at h
  | cons p ps ih =>
    rw [parseOpts] at h
    have hp := hps p (by simp)
    split at h
    · cases h; trivial
    · rename_i k v hkv
      have hl := splitEq1_length hkv
      simp only [List.length_nil, Nat.zero_add] at hl
      -- `header.index(pair)`: the pair lies inside the header where it is found
      have hcol : (findSub p header).getD 0 + p.length ≤ header.length := by
        cases hf : findSub p header with
        | none => simpa using hp
        | some i => simpa using findSub_some_le hf
      simp only at h
      split at h
      · cases h; simp only [Err.colLe]; omega
      · split at h
        · cases h; simp only [Err.colLe]; omega
        · exact ih (fun q hq => hps q (by simp [hq])) h

theorem structure_opts_length {h : Bytes} {sec : SecId} {o : Bytes}
    (hs : structure? h = some (sec, some o)) : o.length ≤ h.length := by
  have hh := congrArg List.length (structure_some hs).2.1
  simp only [optTail, List.length_cons, List.length_append] at hh
  omega

theorem parseHeader_col {valid : List SecId} {h : Bytes} {e : Err}
    (he : parseHeader valid h = .error e) : e.colLe h.length := by
  unfold parseHeader at he
  split at he
  · cases he; trivial
  · rename_i sec o hs
    split at he
    · cases he; trivial
    · split at he
      · simp at he
      · rename_i o'
        have hol := structure_opts_length hs
        split at he
        · simp at he
        · rename_i e' hpo
          cases he
          refine parseOpts_col ?_ hpo
          intro p hp
          have := splitCommaSpace_length [] o' p hp
          simp at this; omega

end Diffx.Header
