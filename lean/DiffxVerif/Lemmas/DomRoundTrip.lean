import DiffxVerif.Lemmas.RunRoundTrip
import DiffxVerif.Lemmas.DomZip
/-!
# Trees through the writer and the loader: tree → bytes → tree

`to_bytes` is a walk over `steps`, inverted once (`toBytes_ok_iff`), and so a run of the streaming writer on
the call list `treeCalls`, which is what `toCalls` yields, stated by recursion over the tree. The laws of a
program, its expected records and `AllOk` split along `++` (`lawsLeft`, `lawsRight`; the laws are indexed by the
writer state, which `runFrom` threads), so the tree the loader builds from the expected records, `expTree`, is
defined by the same recursion, with no `Reader.*`, `Dom.fromBytes` or `Dom.loadRecord` in it, and `load_records`
follows the loader along the zipper of Lemmas/DomZip.lean. What the loader stores for a rendered header is
`storedOpts`: the values are those the writer's own value check let through. `Properties/C05Tree.lean` composes
`load_records` with the whole-sequence round trip `C01_run`. For C06, `retree`: under the laws `ReLaws` about
preparing normalised content again, serialising the normalised tree reaches the same writer state.
-/
namespace Diffx.DomRT
open Diffx Diffx.Dom
open Diffx.RunRT (NameOk EncOk ProgramLaws ProgramLawsFrom CallLaws PreambleLaws MetaLaws DiffCallLaws
  expectedOne expectedFrom expectedRecords recOpts AllOk runFrom allOk_append runFrom_append
  run_of_allOk)

def stepCalls : Step → List Writer.Call
  | .ok (some c) => [c]
  | _ => []

/-- no step of the DOM writer's walk raised -/
def StepsOk (ss : List Step) : Prop := ∀ s ∈ ss, ∃ oc, s = .ok oc

theorem StepsOk.flatMap {α : Type} {f : α → List Step} {pre : List Step} {l : List α}
    (hs : StepsOk (pre ++ l.flatMap f)) {x : α} (hx : x ∈ l) : StepsOk (f x) :=
  fun s hm => hs s (List.mem_append_right _ (List.mem_flatMap.mpr ⟨x, hx, hm⟩))

theorem StepsOk.container {mk : Option Name → Writer.Call} {o : DOpts} {rest : List Step}
    (hs : StepsOk (containerCall mk o :: rest)) :
    containerCall mk o = .ok (some (mk (DomConc.optText o b!"encoding"))) := by
  obtain ⟨oc, hoc⟩ := hs _ List.mem_cons_self
  rw [hoc, DomConc.containerCall_enc hoc]

abbrev secCalls (di : Nat) (c : ContentSec) : List Writer.Call := stepCalls (contentCall di c)

def fileCalls (di : Nat) (f : FileSec) : List Writer.Call :=
  stepCalls (containerCall Writer.Call.newFile f.opts) ++ (secCalls di f.metaSec ++ secCalls di f.diff)

def filesCalls (di : Nat) : List FileSec → List Writer.Call
  | [] => []
  | f :: fs => fileCalls di f ++ filesCalls di fs

def changeCalls (di : Nat) (c : ChangeSec) : List Writer.Call :=
  stepCalls (containerCall Writer.Call.newChange c.opts) ++
    (secCalls di c.preamble ++ (secCalls di c.metaSec ++ filesCalls di c.files))

def changesCalls (di : Nat) : List ChangeSec → List Writer.Call
  | [] => []
  | c :: cs => changeCalls di c ++ changesCalls di cs

/-- **the calls `write_stream` makes for a tree**, by recursion over the tree -/
def treeCalls (di : Nat) (t : Tree) : List Writer.Call :=
  secCalls di t.preamble ++ (secCalls di t.metaSec ++ changesCalls di t.changes)

theorem mapM_id_calls {ss : List Step} {ocs : List (Option Writer.Call)} (h : ss.mapM id = .ok ocs) :
    ocs.filterMap id = ss.flatMap stepCalls := by
  induction ss generalizing ocs with
  | nil =>
    rw [List.mapM_nil] at h
    cases h
    rfl
  | cons s rest ih =>
    rw [List.mapM_cons] at h
    obtain ⟨oc, h1, h2⟩ := Except.bind_ok h
    obtain ⟨ocs', h3, h4⟩ := Except.bind_ok h2
    cases h4
    cases (h1 : s = .ok oc)
    rw [List.flatMap_cons, ← ih h3]
    cases oc <;> rfl

theorem filesCalls_eq (di : Nat) (fs : List FileSec) :
    (fs.flatMap (fileSteps di)).flatMap stepCalls = filesCalls di fs := by
  induction fs with
  | nil => rfl
  | cons f fs ih =>
    rw [List.flatMap_cons, List.flatMap_append, ih]
    simp [filesCalls, fileCalls, fileSteps, List.flatMap_cons]

theorem changesCalls_eq (di : Nat) (cs : List ChangeSec) :
    (cs.flatMap (changeSteps di)).flatMap stepCalls = changesCalls di cs := by
  induction cs with
  | nil => rfl
  | cons c cs ih =>
    rw [List.flatMap_cons, List.flatMap_append, ih]
    simp [changesCalls, changeCalls, changeSteps, List.flatMap_cons, filesCalls_eq]

theorem steps_calls (di : Nat) (t : Tree) : (steps di t).flatMap stepCalls = treeCalls di t := by
  simp [steps, treeCalls, List.flatMap_cons, changesCalls_eq]

theorem toCalls_treeCalls (di : Nat) (t : Tree) (wv : Text) (e : Option Name) (v : Text)
    (cs : List Writer.Call) (h : toCalls di t wv = .ok (e, v, cs)) :
    ctorArgs t wv = .ok (e, v) ∧ cs = treeCalls di t := by
  unfold toCalls at h
  obtain ⟨⟨e', v'⟩, h1, h2⟩ := Except.bind_ok h
  obtain ⟨ocs, h3, h4⟩ := Except.bind_ok h2
  cases h4
  exact ⟨h1, by rw [mapM_id_calls h3, steps_calls]⟩

section Run
variable (env : Env) (cfg : Config)

/-- what one step of `toBytes.go` does to the writer state: an error of the DOM writer ends the walk, a skipped
section leaves the state, a call is made and must be accepted -/
def stepEff (st : Writer.St) : Step → Except WErr Writer.St
  | .error e => .error e
  | .ok none => .ok st
  | .ok (some c) =>
    if (Writer.step env cfg st c).2 != .ok then .error (.writer (Writer.step env cfg st c).2)
    else .ok (Writer.step env cfg st c).1

/-- `toBytes.go`, keeping the writer state and not only its output (`go_eq_goSt`) -/
def goSt : Writer.St → List Step → Except WErr Writer.St
  | st, [] => .ok st
  | st, s :: rest => stepEff env cfg st s >>= fun st' => goSt st' rest

variable {env} {cfg}

theorem go_eq_goSt (ss : List Step) : ∀ st : Writer.St,
    toBytes.go env cfg st ss = (goSt env cfg st ss).map (·.out) := by
  induction ss with
  | nil => intro st; rfl
  | cons s rest ih =>
    intro st
    cases s with
    | error e => rfl
    | ok oc =>
      cases oc with
      | none => exact ih st
      | some c =>
        simp only [toBytes.go, goSt, stepEff]
        by_cases hr : (Writer.step env cfg st c).2 = .ok
        · simp only [hr, bne_self_eq_false, Bool.false_eq_true, if_false]
          exact ih _
        · have : ((Writer.step env cfg st c).2 != .ok) = true := by simpa using hr
          simp only [this, if_true]
          rfl

theorem goSt_cons_ok {st st' : Writer.St} {s : Step} {rest : List Step}
    (h : stepEff env cfg st s = .ok st') : goSt env cfg st (s :: rest) = goSt env cfg st' rest := by
  simp only [goSt, h]
  rfl

theorem stepEff_call {st : Writer.St} {c : Writer.Call} (h : (Writer.step env cfg st c).2 = .ok) :
    stepEff env cfg st (.ok (some c)) = .ok (runFrom env cfg st [c]) := by
  simp only [stepEff, h, bne_self_eq_false, Bool.false_eq_true, if_false]
  rfl

theorem stepEff_ok {st st' : Writer.St} {s : Step} (h : stepEff env cfg st s = .ok st') :
    (∃ oc, s = .ok oc) ∧ AllOk env cfg st (stepCalls s) ∧ st' = runFrom env cfg st (stepCalls s) := by
  rcases s with e | _ | c
  · cases h
  · cases h
    exact ⟨⟨_, rfl⟩, trivial, rfl⟩
  · simp only [stepEff] at h
    split at h
    · cases h
    · rename_i hr
      cases h
      exact ⟨⟨_, rfl⟩, ⟨by simpa using hr, trivial⟩, rfl⟩

theorem goSt_ok {ss : List Step} : ∀ {st st' : Writer.St}, goSt env cfg st ss = .ok st' →
    StepsOk ss ∧ AllOk env cfg st (ss.flatMap stepCalls) ∧
      st' = runFrom env cfg st (ss.flatMap stepCalls) := by
  induction ss with
  | nil =>
    intro st st' h
    cases h
    exact ⟨fun _ h => (List.not_mem_nil h).elim, trivial, rfl⟩
  | cons s rest ih =>
    intro st st' h
    obtain ⟨st1, h1, h2⟩ := Except.bind_ok h
    obtain ⟨s1, s2, rfl⟩ := stepEff_ok h1
    obtain ⟨r1, r2, r3⟩ := ih h2
    rw [List.flatMap_cons, runFrom_append]
    exact ⟨fun x hx => (List.mem_cons.mp hx).elim (· ▸ s1) (r1 x), allOk_append.mpr ⟨s2, r2⟩, r3⟩

theorem toBytes_ok_iff {wv : Text} {t : Tree} {b : Bytes} :
    toBytes env cfg wv t = .ok b ↔
      ∃ enc ver st', ctorArgs t wv = .ok (enc, ver) ∧ (Writer.init enc ver).2 = .ok ∧
        goSt env cfg (Writer.init enc ver).1 (steps cfg.defaultIndent t) = .ok st' ∧ st'.out = b := by
  unfold toBytes
  constructor
  · intro h
    obtain ⟨⟨enc, ver⟩, hc, h⟩ := Except.bind_ok h
    by_cases hi : (Writer.init enc ver).2 = .ok
    · simp only [hi, bne_self_eq_false, Bool.false_eq_true, if_false] at h
      rw [go_eq_goSt] at h
      obtain ⟨st', h1, h2⟩ := Dom.map_ok h
      exact ⟨enc, ver, st', hc, hi, h1, h2⟩
    · have : ((Writer.init enc ver).2 != .ok) = true := by simpa using hi
      simp [this, throw, throwThe, MonadExceptOf.throw, bind, Except.bind] at h
  · rintro ⟨enc, ver, st', hc, hi, hgo, rfl⟩
    simp only [hc, bind, Except.bind, hi, bne_self_eq_false, Bool.false_eq_true, if_false, go_eq_goSt, hgo]
    rfl

theorem mapM_id_of_ok {ss : List Step} (h : StepsOk ss) : ∃ ocs, ss.mapM id = .ok ocs := by
  induction ss with
  | nil => exact ⟨[], rfl⟩
  | cons s rest ih =>
    obtain ⟨oc, rfl⟩ := h s List.mem_cons_self
    obtain ⟨ocs, e⟩ := ih fun s hs => h s (List.mem_cons_of_mem _ hs)
    exact ⟨oc :: ocs, by rw [List.mapM_cons, e]; rfl⟩

theorem toBytes_is_run {env : Env} {cfg : Config} {wv : Text} {t : Tree} {b : Bytes}
    (h : toBytes env cfg wv t = .ok b) :
    ∃ enc ver calls, toCalls cfg.defaultIndent t wv = .ok (enc, ver, calls) ∧
      (Writer.run env cfg enc ver calls).1.out = b ∧ (∀ r ∈ (Writer.run env cfg enc ver calls).2, r = .ok) ∧
      StepsOk (steps cfg.defaultIndent t) := by
  obtain ⟨enc, ver, st', hc, hi, hgo, rfl⟩ := toBytes_ok_iff.mp h
  obtain ⟨hs, hall, rfl⟩ := goSt_ok hgo
  obtain ⟨ocs, hm⟩ := mapM_id_of_ok hs
  obtain ⟨hrun, hok⟩ := run_of_allOk hi hall
  refine ⟨enc, ver, ocs.filterMap id, ?_, ?_, ?_, hs⟩
  · simp [toCalls, hc, hm, bind, Except.bind, pure, Except.pure]
  · rw [mapM_id_calls hm, hrun]
  · rw [mapM_id_calls hm]; exact hok

/-- `toBytes_is_run` for a call list that is given and not chosen -/
theorem toBytes_run {wv : Text} {t : Tree} {b : Bytes} (h : toBytes env cfg wv t = .ok b) {enc : Option Name}
    {ver : Text} {calls : List Writer.Call} (hcalls : toCalls cfg.defaultIndent t wv = .ok (enc, ver, calls)) :
    (Writer.run env cfg enc ver calls).1.out = b ∧ (∀ r ∈ (Writer.run env cfg enc ver calls).2, r = .ok) ∧
      StepsOk (steps cfg.defaultIndent t) := by
  obtain ⟨enc', ver', calls', hc', hrun⟩ := toBytes_is_run h
  cases hcalls.symm.trans hc'
  exact hrun

end Run

section Split
variable (env : Env) (cfg : Config)

/-- the laws of a program `xs ++ ys` are those of `xs` and, from the state `xs` leads to, those of `ys` (the laws
are a dependent tuple along the call list, so the two parts are taken by recursion and not by `take` / `drop`) -/
def lawsLeft : (st : Writer.St) → (xs ys : List Writer.Call) →
    ProgramLawsFrom env cfg st (xs ++ ys) → ProgramLawsFrom env cfg st xs
  | _, [], _, _ => PUnit.unit
  | st, c :: xs, ys, (L, Ls) => (L, lawsLeft (Writer.step env cfg st c).1 xs ys Ls)

def lawsRight : (st : Writer.St) → (xs ys : List Writer.Call) →
    ProgramLawsFrom env cfg st (xs ++ ys) → ProgramLawsFrom env cfg (runFrom env cfg st xs) ys
  | _, [], _, L => L
  | st, c :: xs, ys, (_, Ls) => lawsRight (Writer.step env cfg st c).1 xs ys Ls

/-- the reader's line counter after the sections of `cs` -/
def linesFrom : (st : Writer.St) → Nat → (cs : List Writer.Call) → ProgramLawsFrom env cfg st cs → Nat
  | _, line, [], _ => line
  | st, line, c :: cs, (L, Ls) =>
    linesFrom (Writer.step env cfg st c).1 (line + (expectedOne env cfg st line c L).2) cs Ls

variable {env} {cfg}

theorem expectedFrom_append (xs ys : List Writer.Call) : ∀ (st : Writer.St) (line : Nat)
    (L : ProgramLawsFrom env cfg st (xs ++ ys)),
    expectedFrom env cfg st line (xs ++ ys) L =
      expectedFrom env cfg st line xs (lawsLeft env cfg st xs ys L) ++
        expectedFrom env cfg (runFrom env cfg st xs) (linesFrom env cfg st line xs (lawsLeft env cfg st xs ys L))
          ys (lawsRight env cfg st xs ys L) := by
  induction xs with
  | nil => intro st line L; rfl
  | cons c xs ih =>
    intro st line L
    obtain ⟨L1, Ls⟩ := L
    exact congrArg (_ :: ·) (ih (Writer.step env cfg st c).1 _ Ls)

end Split

section Opts
open Diffx.Writer Diffx.Header

/-- the Python value the loader stores for a header option value the writer rendered -/
def pyOf (v : HVal) : PyVal := optToPy (convert v.text.toAscii)

theorem contentOpts_recOpts {opts : List (Bytes × Option HVal)} (hnd : (opts.map (·.1)).Nodup) :
    Dom.contentOpts (recOpts opts) =
      ((sortOpts (presentOpts opts)).filter (fun p => p.1 != b!"length")).map (fun p => (p.1, pyOf p.2)) := by
  unfold recOpts
  rw [reported_eq_map (writtenPairs_keys_nodup opts hnd), writtenPairs_eq]
  simp only [List.map_map, Dom.contentOpts, optsToPy, List.filter_map]
  rfl

theorem pyOf_enc {n : Name} (h : NameOk n) : pyOf (.str n) = .str n := by
  show optToPy (convert n.toAscii) = _
  rw [h.str]
  show PyVal.str (Text.ofAscii n.toAscii) = _
  rw [← h.ascii]

theorem pyOf_int {i : Int} (h0 : 0 ≤ i) (hb : i.toNat ≤ Reader.maxRead) : pyOf (.int i) = .int i := by
  show optToPy (convert (HVal.int i).text.toAscii) = _
  rw [convert_int i h0 hb]; rfl

theorem pyOf_json : pyOf (.str (Text.ofAscii b!"json")) = .str (Text.ofAscii b!"json") := rfl

/-- the options of a header as the loader stores them: those that are not `None`, in key order,
without `length`, each value as the Python value it stands for -/
def storedOpts (opts : List (Bytes × Option HVal)) : DOpts :=
  ((sortOpts (presentOpts opts)).filter (fun p => p.1 != b!"length")).map
    (fun p => (p.1, match p.2 with | .str t => PyVal.str t | .int i => PyVal.int i))

/-- The writer's own value check makes every `str` value one the reader gives back as that string; the
integers must be ones `int()` gives back (`hint`). -/
theorem contentOpts_written {sec : SecId} {opts : List (Bytes × Option HVal)} {h : Bytes}
    (hr : renderHeader sec opts = .ok h) (hnd : (opts.map (·.1)).Nodup)
    (hint : ∀ k i, (k, some (HVal.int i)) ∈ opts → 0 ≤ i ∧ i.toNat ≤ Reader.maxRead) :
    Dom.contentOpts (recOpts opts) = storedOpts opts := by
  rw [contentOpts_recOpts hnd]
  refine List.map_congr_left fun p hp => ?_
  have hm : (p.1, some p.2) ∈ opts :=
    mem_presentOpts.mp (sortOpts_perm.mem_iff.mp (List.mem_filter.mp hp).1)
  cases hv : p.2 with
  | str t =>
    rw [hv] at hm
    rw [pyOf_enc ((RunRT.nameOk_iff_not_refused t).mpr (renderHeader_ok_value hr hm))]
  | int i =>
    rw [hv] at hm
    rw [pyOf_int (hint _ i hm).1 (hint _ i hm).2]

def optStr (k : Bytes) : Option Text → DOpts
  | some t => [(k, .str t)]
  | none => []

/-- **the options of a loaded preamble**: `encoding` and `mimetype` if given, the `indent` used
(`None` recorded when the text was not indented), the detected `line_endings`.  The writer sorts a header's
options by key, so they are read in the order `encoding`, `indent`, `line_endings`, `mimetype`; an `indent` that
was not written is recorded by the loader's `setdefault` afterwards, hence at the end. -/
def preambleOpts (enc : Option Name) (indent : Option Int) (le : Text) (mime : Option Text) : DOpts :=
  optStr b!"encoding" enc ++ (match indent with | some i => [(b!"indent", PyVal.int i)] | none => []) ++
    [(b!"line_endings", .str le)] ++ optStr b!"mimetype" mime ++
    (match indent with | some _ => [] | none => [(b!"indent", PyVal.none)])

/-- **the options of a loaded metadata section**: `encoding` if given, the `format` -/
def metaOpts (enc : Option Name) (fmt : Text) : DOpts :=
  optStr b!"encoding" enc ++ [(b!"format", .str fmt)]

/-- **the options of a loaded diff**: `encoding` and `type` if given, the detected `line_endings` -/
def diffOpts (enc : Option Name) (le : Text) (ty : Option Text) : DOpts :=
  optStr b!"encoding" enc ++ [(b!"line_endings", .str le)] ++ optStr b!"type" ty

/-- The three `_stored` lemmas evaluate `sortOpts` on the at most five entries of the header, case by case over which
options are given: the keys are byte strings, `encoding` < `format` < `indent` < `length` < `line_endings` <
`mimetype` < `type`. -/
theorem preamble_stored (enc : Option Name) (indent : Option Int) (len : Nat) (le : Text) (mime : Option Text) :
    setdefaultIndent (storedOpts (RunRT.contentOpts [(b!"mimetype", mime.map HVal.str)] enc indent len true le)) =
      preambleOpts enc indent le mime := by
  -- the options written, in key order and without `length`
  have h : storedOpts (RunRT.contentOpts [(b!"mimetype", mime.map HVal.str)] enc indent len true le) =
      optStr b!"encoding" enc ++ (match indent with | some i => [(b!"indent", PyVal.int i)] | none => []) ++
        [(b!"line_endings", .str le)] ++ optStr b!"mimetype" mime := by
    cases enc <;> cases indent <;> cases mime <;> rfl
  -- `setdefault` appends `indent: None` when no indent was written
  rw [h]
  cases enc <;> cases indent <;> cases mime <;> rfl

theorem meta_stored (enc : Option Name) (len : Nat) (le fmt : Text) :
    storedOpts (RunRT.contentOpts [(b!"format", some (HVal.str fmt))] enc none len false le) = metaOpts enc fmt := by
  cases enc <;> rfl

theorem diff_stored (enc : Option Name) (len : Nat) (le : Text) (ty : Option Text) :
    storedOpts (RunRT.contentOpts [(b!"type", ty.map HVal.str)] enc none len true le) = diffOpts enc le ty := by
  cases enc <;> cases ty <;> rfl

/-- the integers among the options of a content call are its `indent` and its `length` -/
theorem contentOpts_ints {k0 : Bytes} {v0 : Option Text} {enc : Option Name} {indent : Option Int} {n : Nat}
    {wl : Bool} {le : Text} (hib : ∀ i, indent = some i → 0 ≤ i ∧ i.toNat ≤ Reader.maxRead)
    (hn : n ≤ Reader.maxRead) (k : Bytes) (i : Int)
    (hm : (k, some (HVal.int i)) ∈ RunRT.contentOpts [(k0, v0.map HVal.str)] enc indent n wl le) :
    0 ≤ i ∧ i.toNat ≤ Reader.maxRead := by
  cases v0 <;> cases enc <;> cases wl <;>
    simp only [RunRT.contentOpts, List.mem_append, List.mem_cons, List.not_mem_nil, Prod.mk.injEq, Option.map,
      Option.some.injEq, or_false, false_or, and_false, reduceCtorEq, if_true, Bool.false_eq_true, if_false,
      HVal.int.injEq] at hm
  -- what is left of the membership: the entry is that of `indent`, or that of `length`
  all_goals
    rcases hm with ⟨-, hm⟩ | ⟨-, rfl⟩
    · cases indent with
      | none => cases hm
      | some j => cases hm; exact hib _ rfl
    · exact ⟨Int.natCast_nonneg n, by rw [Int.toNat_natCast]; exact hn⟩

theorem container_loaded_opts {enc : Option Name} (he : EncOk enc) :
    containerOpts (recOpts [(b!"encoding", enc.map HVal.str)]) = .ok (optStr b!"encoding" enc) := by
  cases enc with
  | none => rfl
  | some n =>
    have h := he n rfl
    have e : recOpts [(b!"encoding", (some n).map HVal.str)] = [(b!"encoding", convert n.toAscii)] := rfl
    rw [e, h.str]
    show Except.ok [(b!"encoding", PyVal.str (Text.ofAscii n.toAscii))] = _
    rw [← h.ascii]
    rfl

end Opts

section Expected
variable (env : Env) (cfg : Config)

/-- **the section the loader builds for one written content section**: its kind, the options
the writer derives (without `length`), and the decoded / parsed / prepared content of the laws -/
def expContent (st : Writer.St) (dflt : ContentSec) (c : Writer.Call) (L : CallLaws env cfg st c) :
    ContentSec :=
  match c, L with
  | .preamble (.str _) enc indent _ mime, L =>
    ⟨.preamble, preambleOpts enc indent L.leOut mime, .str L.text.decoded⟩
  | .metadata (.dict _) enc fmt, L => ⟨.metadata, metaOpts enc fmt, .dict L.parsed⟩
  | .diff (.bytes _) ty enc _, L => ⟨.diff, diffOpts enc L.leOut ty, .bytes L.data⟩
  | _, _ => dflt

/-- the loaded section for one step of the DOM writer's walk: `dflt` (the section of a fresh
tree / change / file) when the section is skipped -/
def expSec (st : Writer.St) (dflt : ContentSec) :
    (s : Step) → ProgramLawsFrom env cfg st (stepCalls s) → ContentSec
  | .ok (some c), L => expContent env cfg st dflt c L.1
  | _, _ => dflt

/-- the options of a loaded change / file: the `encoding` option only if one was given -/
def containerDOpts : Step → DOpts
  | .ok (some (.newChange enc)) => optStr b!"encoding" enc
  | .ok (some (.newFile enc)) => optStr b!"encoding" enc
  | _ => []

def expFile (di : Nat) (st : Writer.St) (f : FileSec) (L : ProgramLawsFrom env cfg st (fileCalls di f)) :
    FileSec :=
  let A := stepCalls (containerCall Writer.Call.newFile f.opts)
  let M := secCalls di f.metaSec
  let D := secCalls di f.diff
  let st1 := runFrom env cfg st A
  let L1 : ProgramLawsFrom env cfg st1 (M ++ D) := lawsRight env cfg st A (M ++ D) L
  { opts := containerDOpts (containerCall Writer.Call.newFile f.opts)
    metaSec := expSec env cfg st1 newMeta (contentCall di f.metaSec) (lawsLeft env cfg st1 M D L1)
    diff := expSec env cfg (runFrom env cfg st1 M) newDiff (contentCall di f.diff) (lawsRight env cfg st1 M D L1) }

def expFiles (di : Nat) : (st : Writer.St) → (fs : List FileSec) →
    ProgramLawsFrom env cfg st (filesCalls di fs) → List FileSec
  | _, [], _ => []
  | st, f :: fs, L =>
    expFile env cfg di st f (lawsLeft env cfg st (fileCalls di f) (filesCalls di fs) L) ::
      expFiles di (runFrom env cfg st (fileCalls di f)) fs (lawsRight env cfg st (fileCalls di f) (filesCalls di fs) L)

def expChange (di : Nat) (st : Writer.St) (c : ChangeSec)
    (L : ProgramLawsFrom env cfg st (changeCalls di c)) : ChangeSec :=
  let A := stepCalls (containerCall Writer.Call.newChange c.opts)
  let P := secCalls di c.preamble
  let M := secCalls di c.metaSec
  let F := filesCalls di c.files
  let st1 := runFrom env cfg st A
  let L1 : ProgramLawsFrom env cfg st1 (P ++ (M ++ F)) := lawsRight env cfg st A (P ++ (M ++ F)) L
  let st2 := runFrom env cfg st1 P
  let L2 : ProgramLawsFrom env cfg st2 (M ++ F) := lawsRight env cfg st1 P (M ++ F) L1
  { opts := containerDOpts (containerCall Writer.Call.newChange c.opts)
    preamble := expSec env cfg st1 newPreamble (contentCall di c.preamble) (lawsLeft env cfg st1 P (M ++ F) L1)
    metaSec := expSec env cfg st2 newMeta (contentCall di c.metaSec) (lawsLeft env cfg st2 M F L2)
    files := expFiles env cfg di (runFrom env cfg st2 M) c.files (lawsRight env cfg st2 M F L2) }

def expChanges (di : Nat) : (st : Writer.St) → (cs : List ChangeSec) →
    ProgramLawsFrom env cfg st (changesCalls di cs) → List ChangeSec
  | _, [], _ => []
  | st, c :: cs, L =>
    expChange env cfg di st c (lawsLeft env cfg st (changeCalls di c) (changesCalls di cs) L) ::
      expChanges di (runFrom env cfg st (changeCalls di c)) cs
        (lawsRight env cfg st (changeCalls di c) (changesCalls di cs) L)

/-- **the tree the loader builds**, by recursion over the tree `t`, threading the writer state -/
def expTree (di : Nat) (enc : Name) (st : Writer.St) (t : Tree)
    (L : ProgramLawsFrom env cfg st (treeCalls di t)) : Tree :=
  let P := secCalls di t.preamble
  let M := secCalls di t.metaSec
  let C := changesCalls di t.changes
  let st1 := runFrom env cfg st P
  let L1 : ProgramLawsFrom env cfg st1 (M ++ C) := lawsRight env cfg st P (M ++ C) L
  { opts := [(b!"encoding", .str enc), (b!"version", .str (Text.ofAscii b!"1.0"))]
    preamble := expSec env cfg st newPreamble (contentCall di t.preamble) (lawsLeft env cfg st P (M ++ C) L)
    metaSec := expSec env cfg st1 newMeta (contentCall di t.metaSec) (lawsLeft env cfg st1 M C L1)
    changes := expChanges env cfg di (runFrom env cfg st1 M) t.changes (lawsRight env cfg st1 M C L1) }

end Expected

/-- **the normalised tree** for the program `toCalls` derives from `t`: `expTree` on the
structural call list (`calls = treeCalls di t` by `toCalls_treeCalls`) -/
def expectedTree (env : Env) (cfg : Config) (wv : Text) (t : Tree) (enc : Name) (calls : List Writer.Call)
    (hcalls : toCalls cfg.defaultIndent t wv = .ok (some enc, Text.ofAscii b!"1.0", calls))
    (laws : ProgramLaws env cfg enc calls) : Tree :=
  expTree env cfg cfg.defaultIndent enc (Writer.init (some enc) (Text.ofAscii b!"1.0")).1 t
    ((toCalls_treeCalls _ _ _ _ _ _ hcalls).2 ▸ laws.calls)

/-- `TreeOk` (`FileWF`, `ChangeWF`: its part for one file, one change) together with: every step of the DOM writer's
walk is `.ok`, said level by level so that the recursions over the tree find their part (`wf_of_steps`) -/
def FileWF (di : Nat) (f : FileSec) : Prop :=
  f.metaSec.kind = .metadata ∧ f.diff.kind = .diff ∧ StepsOk (fileSteps di f)

def ChangeWF (di : Nat) (c : ChangeSec) : Prop :=
  c.preamble.kind = .preamble ∧ c.metaSec.kind = .metadata ∧
    StepsOk (changeSteps di c) ∧ ∀ f ∈ c.files, FileWF di f

def TreeWF (di : Nat) (t : Tree) : Prop :=
  t.preamble.kind = .preamble ∧ t.metaSec.kind = .metadata ∧ ∀ c ∈ t.changes, ChangeWF di c

theorem wf_of_steps {di : Nat} {t : Tree} (hk : TreeOk t) (hs : StepsOk (steps di t)) :
    TreeWF di t := by
  obtain ⟨hp, hm, hcs⟩ := treeOk_iff.mp hk
  refine ⟨hp, hm, fun c hc => ?_⟩
  obtain ⟨cp, cm, hfs⟩ := hcs c hc
  have hsub : StepsOk (changeSteps di c) := hs.flatMap hc
  exact ⟨cp, cm, hsub, fun f hf => ⟨(hfs f hf).1, (hfs f hf).2, hsub.flatMap hf⟩⟩

section Load
variable {env : Env} {cfg : Config}

def callKind : Writer.Call → Option Kind
  | .preamble .. => some .preamble
  | .metadata .. => some .metadata
  | .diff .. => some .diff
  | _ => none

theorem load_content_record {st : Writer.St} {line : Nat} {c : Writer.Call}
    (hok : (Writer.step env cfg st c).2 = .ok) {L : CallLaws env cfg st c} {k : Kind}
    (hk : callKind c = some k) {ls : LoadSt} (dflt : ContentSec) :
    loadRecord ls (expectedOne env cfg st line c L).1 = place k ls (expContent env cfg st dflt c L) := by
  -- the header of the section was rendered from the option list of the record (`RunRT.callSec`)
  obtain ⟨header, hpre, -, hr, -⟩ := RunRT.accepted hok L
  rcases Writer.pre_none_cases hpre with ⟨enc, rfl⟩ | ⟨enc, rfl⟩ | ⟨t, enc, indent, le, mime, rfl⟩ |
    ⟨j, enc, rfl⟩ | ⟨d, dtype, enc, le, rfl⟩ <;> cases hk
  · change PreambleLaws env cfg st t enc indent le at L
    replace hr : Writer.renderHeader _ (RunRT.contentOpts _ _ _ _ _ _) = .ok header := hr
    show place .preamble ls ⟨.preamble, setdefaultIndent (Dom.contentOpts (recOpts _)), .str L.text.decoded⟩ = _
    rw [contentOpts_written hr (RunRT.contentOpts_lookup (by decide) (by decide) rfl).1
      (contentOpts_ints L.indent_bound L.hlen), preamble_stored]
    rfl
  · change MetaLaws env cfg st j enc at L
    replace hr : Writer.renderHeader _ (RunRT.contentOpts _ _ _ _ _ _) = .ok header := hr
    show place .metadata ls ⟨.metadata, Dom.contentOpts (recOpts _), .dict L.parsed⟩ = _
    rw [contentOpts_written hr (RunRT.contentOpts_lookup (by decide) (by decide) rfl).1
      (contentOpts_ints (v0 := some _) nofun L.hlen), meta_stored]
    rfl
  · change DiffCallLaws env cfg st d enc le at L
    replace hr : Writer.renderHeader _ (RunRT.contentOpts _ _ _ _ _ _) = .ok header := hr
    show place .diff ls ⟨.diff, Dom.contentOpts (recOpts _), .bytes L.data⟩ = _
    rw [contentOpts_written hr (RunRT.contentOpts_lookup (by decide) (by decide) rfl).1
      (contentOpts_ints nofun L.hlen), diff_stored]
    rfl

theorem contentCall_kind {di : Nat} {c : ContentSec} {call : Writer.Call}
    (h : contentCall di c = .ok (some call)) : callKind call = some c.kind := by
  rw [DomConc.contentCall_some h, DomConc.callOf]
  cases c.kind <;> rfl

theorem fold_single (ls : LoadSt) (r : Reader.Record) : fold ls [r] = loadRecord ls r := by
  unfold fold
  rw [List.foldlM_cons]
  cases loadRecord ls r <;> rfl

/-- when the calls `cs` are accepted from `st`, the records expected for them under the laws `L` lead the loader
from `ls` to `ls'` -/
def Loads (env : Env) (cfg : Config) (st : Writer.St) (cs : List Writer.Call) (L : ProgramLawsFrom env cfg st cs)
    (ls ls' : LoadSt) : Prop :=
  AllOk env cfg st cs → ∀ line, fold ls (expectedFrom env cfg st line cs L) = .ok ls'

/-- acceptance and the records split along `++` here, once -/
theorem Loads.append {st : Writer.St} {xs ys : List Writer.Call} {L : ProgramLawsFrom env cfg st (xs ++ ys)}
    {ls ls1 ls2 : LoadSt} (h1 : Loads env cfg st xs (lawsLeft env cfg st xs ys L) ls ls1)
    (h2 : Loads env cfg (runFrom env cfg st xs) ys (lawsRight env cfg st xs ys L) ls1 ls2) :
    Loads env cfg st (xs ++ ys) L ls ls2 := fun hok line => by
  obtain ⟨hok1, hok2⟩ := allOk_append.mp hok
  unfold fold
  rw [expectedFrom_append, List.foldlM_append]
  exact (congrArg (· >>= _) (h1 hok1 line)).trans (h2 hok2 _)

theorem Loads.slot (z : Z) {k : Kind} {y : ContentSec} (hz : z.get k = some y) {di : Nat} {c : ContentSec}
    (hk : c.kind = k) {st : Writer.St} {L : ProgramLawsFrom env cfg st (secCalls di c)} :
    Loads env cfg st (secCalls di c) L z.st (z.put k (expSec env cfg st y (contentCall di c) L)).st := by
  intro hok line
  subst hk
  have hs := @contentCall_kind di c
  unfold secCalls at hok L ⊢
  generalize contentCall di c = s at hs hok L
  rcases s with _ | _ | call
  · exact (put_get hz).symm ▸ rfl
  · exact (put_get hz).symm ▸ rfl
  · obtain ⟨L1, Ls⟩ := L
    show fold z.st [(expectedOne env cfg st line call L1).1] = _
    rw [fold_single, load_content_record hok.1 (hs rfl) y, place_zip hz]
    rfl

theorem Loads.newChange {s : Step} {enc : Option Name} (hs : s = .ok (some (.newChange enc)))
    {st : Writer.St} {L : ProgramLawsFrom env cfg st (stepCalls s)}
    {o : DOpts} {p m : ContentSec} {done : List ChangeSec} {cur : Cur} :
    Loads env cfg st (stepCalls s) L ⟨⟨o, p, m, done⟩, cur⟩
      ⟨⟨o, p, m, done ++ [⟨containerDOpts s, newPreamble, newMeta, []⟩]⟩, .change⟩ := by
  intro _ line
  subst hs
  obtain ⟨L1, Ls⟩ := L
  show fold _ [(expectedOne env cfg st line (.newChange enc) L1).1] = _
  rw [fold_single]
  show (containerOpts (recOpts [(b!"encoding", enc.map Writer.HVal.str)]) >>= _) = _
  rw [container_loaded_opts L1.down]
  rfl

theorem Loads.newFile {s : Step} {enc : Option Name} (hs : s = .ok (some (.newFile enc)))
    {st : Writer.St} {L : ProgramLawsFrom env cfg st (stepCalls s)}
    {o : DOpts} {p m : ContentSec} {done : List ChangeSec} {co : DOpts} {cp cm : ContentSec}
    {fs : List FileSec} {cur : Cur} :
    Loads env cfg st (stepCalls s) L ⟨⟨o, p, m, done ++ [⟨co, cp, cm, fs⟩]⟩, cur⟩
      ⟨⟨o, p, m, done ++ [⟨co, cp, cm, fs ++ [⟨containerDOpts s, newMeta, newDiff⟩]⟩]⟩, .file⟩ := by
  intro _ line
  subst hs
  obtain ⟨L1, Ls⟩ := L
  show fold _ [(expectedOne env cfg st line (.newFile enc) L1).1] = _
  rw [fold_single]
  show (containerOpts (recOpts [(b!"encoding", enc.map Writer.HVal.str)]) >>= _) = _
  rw [container_loaded_opts L1.down]
  show Except.ok (LoadSt.mk (updLastChange _ _) _) = _
  rw [updLastChange_snoc]
  rfl

theorem load_file {di : Nat} {f : FileSec} (hf : FileWF di f) {st : Writer.St}
    {L : ProgramLawsFrom env cfg st (fileCalls di f)}
    {o : DOpts} {p m : ContentSec} {done : List ChangeSec} {co : DOpts} {cp cm : ContentSec}
    {fs : List FileSec} {cur : Cur} :
    Loads env cfg st (fileCalls di f) L ⟨⟨o, p, m, done ++ [⟨co, cp, cm, fs⟩]⟩, cur⟩
      ⟨⟨o, p, m, done ++ [⟨co, cp, cm, fs ++ [expFile env cfg di st f L]⟩]⟩, .file⟩ := by
  obtain ⟨hkm, hkd, hs⟩ := hf
  have hoc := hs.container
  exact (Loads.newFile hoc).append <| (Loads.slot (.inFile o p m done co cp cm fs _ _ _) rfl hkm).append
    (Loads.slot (.inFile o p m done co cp cm fs _ _ _) rfl hkd)

theorem load_files {di : Nat} {fl : List FileSec} (hfl : ∀ f ∈ fl, FileWF di f)
    {o : DOpts} {p m : ContentSec} {done : List ChangeSec} {co : DOpts} {cp cm : ContentSec} :
    ∀ {st : Writer.St} {L : ProgramLawsFrom env cfg st (filesCalls di fl)} (fs : List FileSec) (cur : Cur),
      ∃ cur', Loads env cfg st (filesCalls di fl) L ⟨⟨o, p, m, done ++ [⟨co, cp, cm, fs⟩]⟩, cur⟩
        ⟨⟨o, p, m, done ++ [⟨co, cp, cm, fs ++ expFiles env cfg di st fl L⟩]⟩, cur'⟩ := by
  induction fl with
  | nil =>
    intro st L fs cur
    exact ⟨cur, fun _ _ => by simp [expFiles]; rfl⟩
  | cons f fl ih =>
    intro st L fs cur
    obtain ⟨cur', h⟩ := ih (fun g hg => hfl g (List.mem_cons_of_mem _ hg)) (fs ++ [_]) .file
    rw [List.append_assoc] at h
    exact ⟨cur', (load_file (hfl f List.mem_cons_self)).append h⟩

theorem load_change {di : Nat} {c : ChangeSec} (hc : ChangeWF di c) {st : Writer.St}
    {L : ProgramLawsFrom env cfg st (changeCalls di c)}
    {o : DOpts} {p m : ContentSec} {done : List ChangeSec} {cur : Cur} :
    ∃ cur', Loads env cfg st (changeCalls di c) L ⟨⟨o, p, m, done⟩, cur⟩
      ⟨⟨o, p, m, done ++ [expChange env cfg di st c L]⟩, cur'⟩ := by
  obtain ⟨hkp, hkm, hs, hfs⟩ := hc
  have hoc := hs.container
  exact (load_files hfs [] .change).imp fun cur' h =>
    (Loads.newChange hoc).append <| (Loads.slot (.inChange o p m done _ _ _) rfl hkp).append <|
      (Loads.slot (.inChange o p m done _ _ _) rfl hkm).append h

theorem load_changes {di : Nat} {cl : List ChangeSec} (hcl : ∀ c ∈ cl, ChangeWF di c)
    {o : DOpts} {p m : ContentSec} :
    ∀ {st : Writer.St} {L : ProgramLawsFrom env cfg st (changesCalls di cl)} (done : List ChangeSec) (cur : Cur),
      ∃ cur', Loads env cfg st (changesCalls di cl) L ⟨⟨o, p, m, done⟩, cur⟩
        ⟨⟨o, p, m, done ++ expChanges env cfg di st cl L⟩, cur'⟩ := by
  induction cl with
  | nil =>
    intro st L done cur
    exact ⟨cur, fun _ _ => by simp [expChanges]; rfl⟩
  | cons c cl ih =>
    intro st L done cur
    obtain ⟨cur1, h1⟩ := load_change (hcl c List.mem_cons_self) (done := done) (cur := cur)
      (L := lawsLeft env cfg st (changeCalls di c) (changesCalls di cl) L)
    obtain ⟨cur', h⟩ := ih (fun g hg => hcl g (List.mem_cons_of_mem _ hg)) (done ++ [_]) cur1
    rw [List.append_assoc] at h
    exact ⟨cur', h1.append h⟩

theorem load_tree {di : Nat} (enc : Name) {t : Tree} (ht : TreeWF di t) {st : Writer.St} (line : Nat)
    (hok : AllOk env cfg st (treeCalls di t)) (L : ProgramLawsFrom env cfg st (treeCalls di t)) :
    ∃ cur', fold ⟨⟨[(b!"encoding", .str enc), (b!"version", .str (Text.ofAscii b!"1.0"))],
        newPreamble, newMeta, []⟩, .main⟩ (expectedFrom env cfg st line (treeCalls di t) L) =
      .ok ⟨expTree env cfg di enc st t L, cur'⟩ := by
  obtain ⟨hkp, hkm, hcs⟩ := ht
  exact (load_changes hcs [] .main).imp fun cur' h =>
    ((Loads.slot (.atMain _ _ _) rfl hkp).append <| (Loads.slot (.atMain _ _ _) rfl hkm).append h) hok line

theorem load_records {di : Nat} {enc : Name} {t : Tree} (ht : TreeWF di t)
    (hok : AllOk env cfg (Writer.init (some enc) (Text.ofAscii b!"1.0")).1 (treeCalls di t))
    (laws : ProgramLaws env cfg enc (treeCalls di t)) (de : Name) (wv : Text) :
    ∃ cur', fold ⟨newTree de wv, .main⟩ (expectedRecords env cfg enc (treeCalls di t) laws) =
      .ok ⟨expTree env cfg di enc (Writer.init (some enc) (Text.ofAscii b!"1.0")).1 t laws.calls, cur'⟩ := by
  refine (load_tree enc ht 1 hok laws.calls).imp fun cur' hl => ?_
  unfold fold expectedRecords
  rw [List.foldlM_cons]
  show (Except.ok (LoadSt.mk ⟨[(b!"encoding", pyOf (.str enc)), (b!"version", _)], newPreamble, newMeta, []⟩
    Cur.main) >>= _) = _
  rw [pyOf_enc laws.encOk]
  exact hl

end Load

section Readable
variable {env : Env} {cfg : Config}

theorem expSec_none {st : Writer.St} {dflt : ContentSec} {s : Step} (hs : s = .ok none)
    {L : ProgramLawsFrom env cfg st (stepCalls s)} : expSec env cfg st dflt s L = dflt := by
  subst hs; rfl

theorem expSec_skip {di : Nat} {st : Writer.St} {dflt : ContentSec} {c : ContentSec}
    (h : c.content.truthy = false) {L : ProgramLawsFrom env cfg st (secCalls di c)} :
    expSec env cfg st dflt (contentCall di c) L = dflt :=
  expSec_none (contentCall_skip di h)

theorem expFiles_length {di : Nat} {fl : List FileSec} : ∀ {st : Writer.St}
    {L : ProgramLawsFrom env cfg st (filesCalls di fl)}, (expFiles env cfg di st fl L).length = fl.length := by
  induction fl with
  | nil => intro st L; rfl
  | cons f fl ih => intro st L; simp [expFiles, ih]

theorem expChanges_shape {di : Nat} {cl : List ChangeSec} : ∀ {st : Writer.St}
    {L : ProgramLawsFrom env cfg st (changesCalls di cl)},
    (expChanges env cfg di st cl L).map (·.files.length) = cl.map (·.files.length) := by
  induction cl with
  | nil => intro st L; rfl
  | cons c cl ih =>
    intro st L
    simp only [expChanges, List.map_cons, ih]
    congr 1
    exact expFiles_length

theorem expChanges_length {di : Nat} {cl : List ChangeSec} {st : Writer.St}
    {L : ProgramLawsFrom env cfg st (changesCalls di cl)} :
    (expChanges env cfg di st cl L).length = cl.length := by
  have := congrArg List.length (expChanges_shape (L := L))
  rwa [List.length_map, List.length_map] at this

theorem expFiles_get {di : Nat} {fl : List FileSec} : ∀ {st : Writer.St}
    (L : ProgramLawsFrom env cfg st (filesCalls di fl)) {i : Nat} (h : i < fl.length),
    ∃ (st' : Writer.St) (L' : ProgramLawsFrom env cfg st' (fileCalls di fl[i])),
      (expFiles env cfg di st fl L)[i]? = some (expFile env cfg di st' fl[i] L') := by
  induction fl with
  | nil => intro st L i h; cases h
  | cons f fl ih =>
    intro st L i h
    cases i with
    | zero => exact ⟨_, _, rfl⟩
    | succ i =>
      exact ih (lawsRight env cfg st (fileCalls di f) (filesCalls di fl) L) (Nat.lt_of_succ_lt_succ h)

theorem expChanges_get {di : Nat} {cl : List ChangeSec} : ∀ {st : Writer.St}
    (L : ProgramLawsFrom env cfg st (changesCalls di cl)) {i : Nat} (h : i < cl.length),
    ∃ (st' : Writer.St) (L' : ProgramLawsFrom env cfg st' (changeCalls di cl[i])),
      (expChanges env cfg di st cl L)[i]? = some (expChange env cfg di st' cl[i] L') := by
  induction cl with
  | nil => intro st L i h; cases h
  | cons c cl ih =>
    intro st L i h
    cases i with
    | zero => exact ⟨_, _, rfl⟩
    | succ i =>
      exact ih (lawsRight env cfg st (changeCalls di c) (changesCalls di cl) L) (Nat.lt_of_succ_lt_succ h)

theorem expSec_preamble {st : Writer.St} {dflt : ContentSec} {s : Step} {t : Text} {enc : Option Name}
    {indent : Option Int} {le mime : Option Text} (hs : s = .ok (some (.preamble (.str t) enc indent le mime)))
    (L : ProgramLawsFrom env cfg st (stepCalls s)) :
    ∃ L' : PreambleLaws env cfg st t enc indent le,
      expSec env cfg st dflt s L = ⟨.preamble, preambleOpts enc indent L'.leOut mime, .str L'.text.decoded⟩ := by
  subst hs; exact ⟨L.1, rfl⟩

variable (env) (cfg)

theorem expSec_meta (st : Writer.St) (dflt : ContentSec) (s : Step) (j : Json) (enc : Option Name)
    (fmt : Text) (hs : s = .ok (some (.metadata (.dict j) enc fmt)))
    (L : ProgramLawsFrom env cfg st (stepCalls s)) :
    ∃ L' : MetaLaws env cfg st j enc,
      expSec env cfg st dflt s L = ⟨.metadata, metaOpts enc fmt, .dict L'.parsed⟩ := by
  subst hs; exact ⟨L.1, rfl⟩

theorem expSec_diff (st : Writer.St) (dflt : ContentSec) (s : Step) (d : Bytes) (ty : Option Text)
    (enc : Option Name) (le : Option Text) (hs : s = .ok (some (.diff (.bytes d) ty enc le)))
    (L : ProgramLawsFrom env cfg st (stepCalls s)) :
    ∃ L' : DiffCallLaws env cfg st d enc le,
      expSec env cfg st dflt s L = ⟨.diff, diffOpts enc L'.leOut ty, .bytes L'.data⟩ := by
  subst hs; exact ⟨L.1, rfl⟩

end Readable

section Fixed
variable (env : Env) (cfg : Config)

/-- **the laws of re-preparing normalised content**, for one call made in writer state `st`:
preparing the decoded preamble text again, now with the recorded `line_endings`, gives the
same bytes; the parsed metadata is not empty and dumps to the same text; preparing the
prepared diff again, with the recorded `line_endings`, changes nothing.
(Statements about `Writer.prepareContent` and `env.dumps` only.) -/
def ReCallLaws (st : Writer.St) (c : Writer.Call) (L : CallLaws env cfg st c) : Prop :=
  match c, L with
  | .preamble (.str _) enc indent _ _, L =>
    Writer.prepareContent env cfg st (.str L.text.decoded) indent (some L.leOut) enc true = .ok (L.data, L.leOut)
  | .metadata (.dict _) _ _, L => L.parsed ≠ .obj [] ∧ env.dumps L.parsed = .ok L.text
  | .diff (.bytes _) _ enc _, L =>
    Writer.prepareContent env cfg st (.bytes L.data) none (some L.leOut) enc false = .ok (L.data, L.leOut)
  | _, _ => True

def ReLawsFrom : (st : Writer.St) → (cs : List Writer.Call) → ProgramLawsFrom env cfg st cs → Prop
  | _, [], _ => True
  | st, c :: cs, (L, Ls) => ReCallLaws env cfg st c L ∧ ReLawsFrom (Writer.step env cfg st c).1 cs Ls

def ReLaws (enc : Name) (calls : List Writer.Call) (laws : ProgramLaws env cfg enc calls) : Prop :=
  ReLawsFrom env cfg (Writer.init (some enc) (Text.ofAscii b!"1.0")).1 calls laws.calls

variable {env} {cfg}

theorem reLaws_append {xs ys : List Writer.Call} : ∀ {st : Writer.St}
    {L : ProgramLawsFrom env cfg st (xs ++ ys)},
    ReLawsFrom env cfg st (xs ++ ys) L ↔
      ReLawsFrom env cfg st xs (lawsLeft env cfg st xs ys L) ∧
        ReLawsFrom env cfg (runFrom env cfg st xs) ys (lawsRight env cfg st xs ys L) := by
  induction xs with
  | nil => intro st L; exact ⟨fun h => ⟨trivial, h⟩, fun h => h.2⟩
  | cons c xs ih =>
    intro st L
    obtain ⟨L1, Ls⟩ := L
    have := ih (st := (Writer.step env cfg st c).1) (L := Ls)
    exact ⟨fun h => ⟨⟨h.1, (this.mp h.2).1⟩, (this.mp h.2).2⟩, fun h => ⟨h.1.1, this.mpr ⟨h.1.2, h.2⟩⟩⟩

theorem contentCall_loaded_preamble (di : Nat) (e : Option Name) (indent : Option Int) (le : Text)
    (mime : Option Text) {d : Text} (hd : d ≠ []) :
    contentCall di ⟨.preamble, preambleOpts e indent le mime, .str d⟩ =
      .ok (some (.preamble (.str d) e indent (some le) mime)) := by
  unfold contentCall
  simp only [(DomConc.truthy_str d).mpr hd, Bool.not_true, Bool.false_eq_true, if_false]
  cases e <;> cases indent <;> cases mime <;> rfl

theorem contentCall_loaded_meta (di : Nat) (e : Option Name) (fmt : Text) {j : Json}
    (hj : (PyVal.dict j).truthy = true) :
    contentCall di ⟨.metadata, metaOpts e fmt, .dict j⟩ = .ok (some (.metadata (.dict j) e fmt)) := by
  unfold contentCall
  simp only [hj, Bool.not_true, Bool.false_eq_true, if_false]
  cases e <;> rfl

theorem contentCall_loaded_diff (di : Nat) (e : Option Name) (le : Text) (ty : Option Text) {d : Bytes}
    (hd : d ≠ []) :
    contentCall di ⟨.diff, diffOpts e le ty, .bytes d⟩ = .ok (some (.diff (.bytes d) ty e (some le))) := by
  unfold contentCall
  simp only [(DomConc.truthy_bytes d).mpr hd, Bool.not_true, Bool.false_eq_true, if_false]
  cases e <;> cases ty <;> rfl

theorem restep_call {di : Nat} {st : Writer.St} {c : Writer.Call} {k : Kind} (hk : callKind c = some k)
    (hok : (Writer.step env cfg st c).2 = .ok) {L : CallLaws env cfg st c} (re : ReCallLaws env cfg st c L)
    {dflt : ContentSec} :
    stepEff env cfg st (contentCall di (expContent env cfg st dflt c L)) = .ok (runFrom env cfg st [c]) := by
  obtain ⟨-, -, hpre, -⟩ := Writer.step_accepted hok
  -- the call made for the loaded section has the effect of the original call `c`
  have fin : ∀ c', contentCall di (expContent env cfg st dflt c L) = .ok (some c') →
      Writer.step env cfg st c' = Writer.step env cfg st c →
      stepEff env cfg st (contentCall di (expContent env cfg st dflt c L)) = .ok (runFrom env cfg st [c]) := by
    intro c' hc hs
    rw [hc, stepEff_call (by rw [hs]; exact hok)]
    show Except.ok (Writer.step env cfg st _).1 = Except.ok (Writer.step env cfg st _).1
    rw [hs]
  rcases Writer.pre_none_cases hpre with ⟨enc, rfl⟩ | ⟨enc, rfl⟩ | ⟨t, enc, indent, le, mime, rfl⟩ |
    ⟨j, enc, rfl⟩ | ⟨d, dtype, enc, le, rfl⟩ <;> cases hk
  · have re' : Writer.prepareContent env cfg st (.str L.text.decoded) indent (some L.leOut) enc true =
      .ok (L.data, L.leOut) := re
    refine fin _ (contentCall_loaded_preamble di enc indent L.leOut mime (Writer.prepare_str_ne re'))
      (Writer.step_congr rfl rfl ?_)
    show Writer.contentPayload .. = Writer.contentPayload ..
    rw [Writer.contentPayload, Writer.contentPayload, re', L.hprep]
  · obtain ⟨hne, hd⟩ : L.parsed ≠ .obj [] ∧ env.dumps L.parsed = .ok L.text := re
    -- a dictionary that is not empty is written, and `write_meta` accepts it as it accepted `j`
    have hp : (PyVal.dict L.parsed).truthy = true ∧
        Writer.pre env (.metadata (.dict L.parsed) enc (Text.ofAscii b!"json")) = none := by
      simp only [Writer.pre, hd, Writer.liftEnv]
      cases hp : L.parsed with
      | obj l =>
        cases l with
        | nil => exact absurd hp hne
        | cons a r => exact ⟨rfl, rfl⟩
      | _ => exact ⟨rfl, rfl⟩
    refine fin _ (contentCall_loaded_meta di enc _ hp.1)
      (Writer.step_congr (hp.2.trans hpre.symm) rfl ?_)
    simp only [Writer.payload, hd, L.hdumps]
  · have re' : Writer.prepareContent env cfg st (.bytes L.data) none (some L.leOut) enc false =
      .ok (L.data, L.leOut) := re
    refine fin _ (contentCall_loaded_diff di enc L.leOut dtype (Writer.prepare_bytes_ne re'))
      (Writer.step_congr rfl rfl ?_)
    show Writer.contentPayload .. = Writer.contentPayload ..
    rw [Writer.contentPayload, Writer.contentPayload, re', L.hprep]

/-- when the calls `cs` are accepted from `st` and their laws `L` satisfy the laws of re-preparing, walking the
steps `ss` from `st` has the effect of making the calls `cs` -/
def Replays (env : Env) (cfg : Config) (st : Writer.St) (ss : List Step) (cs : List Writer.Call)
    (L : ProgramLawsFrom env cfg st cs) : Prop :=
  AllOk env cfg st cs → ReLawsFrom env cfg st cs L →
    ∀ rest, goSt env cfg st (ss ++ rest) = goSt env cfg (runFrom env cfg st cs) rest

theorem Replays.nil {st : Writer.St} {L : ProgramLawsFrom env cfg st []} : Replays env cfg st [] [] L :=
  fun _ _ _ => rfl

/-- the hypotheses split along `++` here, once -/
theorem Replays.append {st : Writer.St} {s1 s2 : List Step} {c1 c2 : List Writer.Call}
    {L : ProgramLawsFrom env cfg st (c1 ++ c2)} (h1 : Replays env cfg st s1 c1 (lawsLeft env cfg st c1 c2 L))
    (h2 : Replays env cfg (runFrom env cfg st c1) s2 c2 (lawsRight env cfg st c1 c2 L)) :
    Replays env cfg st (s1 ++ s2) (c1 ++ c2) L := fun hok re rest => by
  obtain ⟨hok1, hok2⟩ := allOk_append.mp hok
  obtain ⟨re1, re2⟩ := reLaws_append.mp re
  rw [List.append_assoc, h1 hok1 re1, h2 hok2 re2, runFrom_append]

theorem Replays.content {di : Nat} {c : ContentSec} {st : Writer.St} {L : ProgramLawsFrom env cfg st (secCalls di c)}
    (dflt : ContentSec) (hd : contentCall di dflt = .ok none) :
    Replays env cfg st [contentCall di (expSec env cfg st dflt (contentCall di c) L)] (secCalls di c) L := by
  intro hok re rest
  refine goSt_cons_ok ?_
  have hs := @contentCall_kind di c
  unfold secCalls at hok L re ⊢
  generalize contentCall di c = s at hs hok L re
  rcases s with _ | _ | call
  · exact (congrArg (stepEff env cfg st) hd : stepEff env cfg st (contentCall di dflt) = _)
  · exact (congrArg (stepEff env cfg st) hd : stepEff env cfg st (contentCall di dflt) = _)
  · obtain ⟨L1, Ls⟩ := L
    exact restep_call (hs rfl) hok.1 re.1

theorem Replays.container {mk : Option Name → Writer.Call} {s : Step} {e : Option Name}
    (hs : s = .ok (some (mk e))) (hmk : mk = Writer.Call.newChange ∨ mk = Writer.Call.newFile)
    {st : Writer.St} {L : ProgramLawsFrom env cfg st (stepCalls s)} :
    Replays env cfg st [containerCall mk (containerDOpts s)] (stepCalls s) L := by
  intro hok _ rest
  refine goSt_cons_ok ?_
  subst hs
  have : containerCall mk (containerDOpts (.ok (some (mk e)))) = .ok (some (mk e)) := by
    rcases hmk with rfl | rfl <;> cases e <;> rfl
  rw [this]
  exact stepEff_call hok.1

theorem refile {di : Nat} {f : FileSec} (hs : StepsOk (fileSteps di f)) {st : Writer.St}
    {L : ProgramLawsFrom env cfg st (fileCalls di f)} :
    Replays env cfg st (fileSteps di (expFile env cfg di st f L)) (fileCalls di f) L := by
  have hoc := hs.container
  exact (Replays.container hoc (.inr rfl)).append ((Replays.content newMeta rfl).append (.content newDiff rfl))

theorem refiles {di : Nat} {fl : List FileSec} (hfl : ∀ f ∈ fl, StepsOk (fileSteps di f)) :
    ∀ {st : Writer.St} {L : ProgramLawsFrom env cfg st (filesCalls di fl)},
      Replays env cfg st ((expFiles env cfg di st fl L).flatMap (fileSteps di)) (filesCalls di fl) L := by
  induction fl with
  | nil => exact .nil
  | cons f fl ih =>
    exact (refile (hfl f List.mem_cons_self)).append (ih fun g hg => hfl g (List.mem_cons_of_mem _ hg))

theorem rechange {di : Nat} {c : ChangeSec} (hs : StepsOk (changeSteps di c)) {st : Writer.St}
    {L : ProgramLawsFrom env cfg st (changeCalls di c)} :
    Replays env cfg st (changeSteps di (expChange env cfg di st c L)) (changeCalls di c) L := by
  have hoc := hs.container
  exact (Replays.container hoc (.inl rfl)).append <| (Replays.content newPreamble rfl).append <|
    (Replays.content newMeta rfl).append (refiles fun _ hf => hs.flatMap hf)

theorem rechanges {di : Nat} {cl : List ChangeSec} (hcl : ∀ c ∈ cl, StepsOk (changeSteps di c)) :
    ∀ {st : Writer.St} {L : ProgramLawsFrom env cfg st (changesCalls di cl)},
      Replays env cfg st ((expChanges env cfg di st cl L).flatMap (changeSteps di)) (changesCalls di cl) L := by
  induction cl with
  | nil => exact .nil
  | cons c cl ih =>
    exact (rechange (hcl c List.mem_cons_self)).append (ih fun g hg => hcl g (List.mem_cons_of_mem _ hg))

theorem retree {di : Nat} (enc : Name) {t : Tree} (hs : StepsOk (steps di t))
    {st : Writer.St} (hok : AllOk env cfg st (treeCalls di t))
    {L : ProgramLawsFrom env cfg st (treeCalls di t)} (re : ReLawsFrom env cfg st (treeCalls di t) L) :
    goSt env cfg st (steps di (expTree env cfg di enc st t L)) = .ok (runFrom env cfg st (treeCalls di t)) := by
  have h : Replays env cfg st (steps di (expTree env cfg di enc st t L)) (treeCalls di t) L :=
    (Replays.content newPreamble rfl).append <| (Replays.content newMeta rfl).append <|
      rechanges fun _ hc => hs.flatMap hc
  exact (List.append_nil _ ▸ h hok re []).trans rfl

end Fixed

end Diffx.DomRT
