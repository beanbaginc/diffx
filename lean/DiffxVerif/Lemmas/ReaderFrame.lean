import DiffxVerif.Lemmas.ReaderStep
/-!
# Framing by `length`, truncation, and independence from unknown options

Both normal forms at work (`readContent_core`: the unread suffix is only copied; `stepSection_chain`).
For C07: what the reader with the length check (`strictLength := true`) yields from a prefix of the
data, the reader as it is yields from all of it (`stepSection_cut`, `readLoop_cut`); on the same data
the two differ at most in one last section, which used up the stream (`*_dich`,
`readLoop_lax_vs_strict`).  For C12: an iteration looks up six option keys, and the others only pass
into the record (`stepHdr_opts_agree`).
-/

namespace Diffx.Reader
open Diffx Diffx.Header

theorem readHeader_cut {chunk : Nat} (hc : 0 < chunk) {valid : List SecId} {a : Bytes} (t : Bytes) {ln : Nat}
    {f : Option Bool} {hdr : Hdr} {ln' : Nat} {st' : St}
    (h : readHeader chunk valid ⟨a, ln, f⟩ = .ok (some (hdr, ln', st'))) :
    readHeader chunk valid ⟨a ++ t, ln, f⟩ = .ok (some (hdr, ln', { st' with rest := st'.rest ++ t })) := by
  rw [readHeader_eq] at h ⊢
  simp only at h ⊢
  cases hn : nextLine chunk (a.length + 1) a with
  | none => rw [hn] at h; cases h
  | some p =>
    obtain ⟨header, rest'⟩ := p
    rw [hn] at h
    rw [nextLine_append hc t hn (by simp)]
    simp only at h ⊢
    obtain ⟨hdr', he, hp, hy⟩ := hdrParse_ok h
    cases hy
    exact hdrParse_of ln _ he hp

/-- `l` with `t` appended to the unread bytes: the state on the intact file, where `l` is on the file cut
in front of `t` -/
def Loop.ext (l : Loop) (t : Bytes) : Loop := { l with st := { l.st with rest := l.st.rest ++ t } }

theorem readContent_cut {env : Env} {cfg : Config} {a : Bytes} (t : Bytes) {k : Nat} {f : Option Bool} {n : Nat}
    {enc ind le : Option OptVal} {kb : Bool} {got : Got} {st' : St}
    (h : readContent env { cfg with strictLength := true } ⟨a, k, f⟩ n enc ind le kb = .ok (got, st')) :
    readContent env { cfg with strictLength := false } ⟨a ++ t, k, f⟩ n enc ind le kb =
      .ok (got, { st' with rest := st'.rest ++ t }) := by
  rw [readContent_core, rcCore_strict] at h ⊢
  simp only [Bool.true_and, Bool.false_and] at h ⊢
  by_cases hs : (a.take n).length < n
  · rw [decide_eq_true hs, rcCore_short] at h
    cases h
  · have hn : n ≤ a.length := by
      simp only [List.length_take] at hs; omega
    rw [decide_eq_false hs] at h
    obtain ⟨p, hp, he⟩ := Except.map_ok h
    cases he
    rw [List.take_append_of_le_length hn, List.drop_append_of_le_length hn, hp]
    rfl

theorem stepHdr_cut {env : Env} {cfg : Config} {encs : List (Option OptVal)} {prev : Nat} {hdr : Hdr} {ln : Nat}
    {a : Bytes} (t : Bytes) {k : Nat} {f : Option Bool} {r : Record} {l' : Loop}
    (h : stepHdr env { cfg with strictLength := true } encs prev hdr ln ⟨a, k, f⟩ = .ok (some (r, l'))) :
    stepHdr env { cfg with strictLength := false } encs prev hdr ln ⟨a ++ t, k, f⟩ = .ok (some (r, l'.ext t)) := by
  unfold stepHdr at h ⊢
  by_cases hc : contentSections.contains hdr.sec = true
  · simp only [hc, if_true] at h ⊢
    obtain ⟨n, h1, h⟩ := Except.bind_ok h
    obtain ⟨u, h2, h⟩ := Except.bind_ok h
    obtain ⟨p, h3, h⟩ := Except.bind_ok h
    obtain ⟨c, h4, h⟩ := Except.bind_ok h
    obtain ⟨got, st'⟩ := p
    rw [h1, Except.ok_bind, h2, Except.ok_bind, readContent_cut t h3, Except.ok_bind]
    simp only [] at h4 ⊢
    rw [h4, Except.ok_bind]
    cases h
    rfl
  · rw [if_neg hc] at h ⊢
    obtain ⟨u, h1, h⟩ := Except.bind_ok h
    rw [h1, Except.ok_bind]
    cases h
    rfl

theorem stepSection_cut {env : Env} {cfg : Config} {chunk : Nat} (hc : 0 < chunk) {l : Loop} (t : Bytes)
    {r : Record} {l' : Loop}
    (h : stepSection env { cfg with strictLength := true } chunk l = .ok (some (r, l'))) :
    stepSection env { cfg with strictLength := false } chunk (l.ext t) = .ok (some (r, l'.ext t)) := by
  obtain ⟨hdr, ln, ⟨a', k', f'⟩, hh, hs⟩ := stepSection_ok_iff.1 h
  obtain ⟨⟨a, k, f⟩, valid, encs, prev⟩ := l
  exact stepSection_ok_iff.2 ⟨hdr, ln, _, readHeader_cut hc t hh, stepHdr_cut t hs⟩

theorem readLoop_cut (env : Env) (cfg : Config) (chunk : Nat) (hc : 0 < chunk) (t : Bytes) (f₁ : Nat) (l : Loop)
    (f₂ : Nat) (hf : (l.st.rest ++ t).length < f₂) :
    (readLoop env { cfg with strictLength := true } chunk f₁ l).1 <+:
      (readLoop env { cfg with strictLength := false } chunk f₂ (l.ext t)).1 := by
  induction f₁, l using readLoop_induct env { cfg with strictLength := true } chunk generalizing f₂ with
  | zero l => simp [readLoop]
  | error f₁ l o hs =>
    rw [readLoop_error f₁ hs]
    exact List.nil_prefix
  | done f₁ l hs =>
    rw [readLoop_done f₁ hs]
    exact List.nil_prefix
  | cons f₁ l r l' hs ih =>
    rw [readLoop_cons f₁ hs, readLoop_step (stepSection_cut hc t hs) hf, List.cons_prefix_cons]
    exact ⟨rfl, ih _ (Nat.lt_succ_self _)⟩

theorem readContent_dich (env : Env) (cfg : Config) (st : St) (n : Nat) (enc ind le : Option OptVal) (kb : Bool) :
    readContent env { cfg with strictLength := true } st n enc ind le kb =
      readContent env { cfg with strictLength := false } st n enc ind le kb ∨
    ((∃ e, readContent env { cfg with strictLength := true } st n enc ind le kb = .error e) ∧
      ∀ got st', readContent env { cfg with strictLength := false } st n enc ind le kb = .ok (got, st') →
        st'.rest = []) := by
  simp only [readContent_core, rcCore_strict, Bool.true_and, Bool.false_and]
  by_cases hs : (st.rest.take n).length < n
  · right
    refine ⟨⟨_, by rw [decide_eq_true hs, rcCore_short]; rfl⟩, ?_⟩
    intro got st' h
    obtain ⟨p, -, hp⟩ := Except.map_ok h
    cases hp
    simp only [List.length_take] at hs
    simp only [List.drop_eq_nil_iff]
    omega
  · left
    rw [decide_eq_false hs]

theorem stepHdr_dich (env : Env) (cfg : Config) (encs : List (Option OptVal)) (prev : Nat) (hdr : Hdr) (ln : Nat)
    (st : St) :
    stepHdr env { cfg with strictLength := true } encs prev hdr ln st =
      stepHdr env { cfg with strictLength := false } encs prev hdr ln st ∨
    ((∃ e, stepHdr env { cfg with strictLength := true } encs prev hdr ln st = .error e) ∧
      ∀ x, stepHdr env { cfg with strictLength := false } encs prev hdr ln st = .ok x →
        ∃ r l', x = some (r, l') ∧ l'.st.rest = []) := by
  unfold stepHdr
  by_cases hc : contentSections.contains hdr.sec = true
  · simp only [hc, if_true]
    cases lengthOf hdr.opts ln with
    | error e => left; rfl
    | ok n =>
      cases fmtCheck hdr.sec hdr.opts ln with
      | error e => left; rfl
      | ok u =>
        simp only [Except.ok_bind]
        rcases readContent_dich env cfg st n (contentEncoding hdr.sec hdr.opts encs) (rcIndent hdr.sec hdr.opts)
          (hdr.opts.get b!"line_endings") (rcKeep hdr.sec) with h | ⟨⟨e, he⟩, h⟩
        · left; rw [h]
        · right
          constructor
          · rw [he]; exact ⟨e, rfl⟩
          · intro x hx
            obtain ⟨p, h3, hx⟩ := Except.bind_ok hx
            obtain ⟨c, h4, hx⟩ := Except.bind_ok hx
            obtain ⟨got, st'⟩ := p
            simp only [Except.ok.injEq] at hx
            exact ⟨_, _, hx.symm, h got st' h3⟩
  · left
    rw [if_neg hc, if_neg hc]

theorem stepSection_dich (env : Env) (cfg : Config) (chunk : Nat) (l : Loop) :
    stepSection env { cfg with strictLength := true } chunk l =
      stepSection env { cfg with strictLength := false } chunk l ∨
    ((∃ e, stepSection env { cfg with strictLength := true } chunk l = .error e) ∧
      ∀ x, stepSection env { cfg with strictLength := false } chunk l = .ok x →
        ∃ r l', x = some (r, l') ∧ l'.st.rest = []) := by
  rw [stepSection_chain, stepSection_chain]
  cases readHeader chunk l.valid l.st with
  | error e => left; rfl
  | ok x =>
    cases x with
    | none => left; rfl
    | some q =>
      obtain ⟨hdr, ln, st⟩ := q
      exact stepHdr_dich env cfg l.encodings l.prevLevel hdr ln st

theorem readLoop_lax_vs_strict (env : Env) (cfg : Config) (chunk : Nat) (fuel : Nat) (l : Loop) :
    (readLoop env { cfg with strictLength := false } chunk fuel l).1 =
      (readLoop env { cfg with strictLength := true } chunk fuel l).1 ∨
    ∃ r, (readLoop env { cfg with strictLength := false } chunk fuel l).1 =
      (readLoop env { cfg with strictLength := true } chunk fuel l).1 ++ [r] := by
  induction fuel, l using readLoop_induct env { cfg with strictLength := false } chunk with
  | zero l => exact Or.inl rfl
  | error fuel l o hs =>
    obtain ⟨e, he⟩ : ∃ e, stepSection env { cfg with strictLength := true } chunk l = .error e := by
      rcases stepSection_dich env cfg chunk l with h | ⟨he, -⟩
      · exact ⟨o, h.trans hs⟩
      · exact he
    rw [readLoop_error fuel hs, readLoop_error fuel he]
    exact Or.inl rfl
  | done fuel l hs =>
    rcases stepSection_dich env cfg chunk l with h | ⟨-, h⟩
    · rw [readLoop_done fuel hs, readLoop_done fuel (h.trans hs)]
      exact Or.inl rfl
    · obtain ⟨_, _, hx, _⟩ := h _ hs
      cases hx
  | cons fuel l r l' hs ih =>
    rw [readLoop_cons fuel hs]
    rcases stepSection_dich env cfg chunk l with h | ⟨⟨e, he⟩, h⟩
    · rw [readLoop_cons fuel (h.trans hs)]
      rcases ih with h' | ⟨r', h'⟩
      · exact Or.inl (by simp only [h'])
      · exact Or.inr ⟨r', by simp only [h', List.cons_append]⟩
    · obtain ⟨_, _, hx, hnil⟩ := h _ hs
      cases hx
      rw [readLoop_error fuel he]
      refine Or.inr ⟨r, ?_⟩
      cases fuel with
      | zero => rfl
      | succ fuel => rw [readLoop_done fuel (stepSection_nil env _ chunk hnil)]; rfl

theorem stepHdr_opts_agree (env : Env) (cfg : Config) (encs : List (Option OptVal)) (prev : Nat) (sec : SecId)
    {o₁ o₂ : Opts} (ln : Nat) (st : St)
    (hag : ∀ key ∈ [b!"encoding", b!"length", b!"indent", b!"line_endings", b!"format", b!"version"],
      o₁.get key = o₂.get key) :
    (stepHdr env cfg encs prev ⟨sec, o₁⟩ ln st).map (Option.map fun p => ({ p.1 with opts := o₂ }, p.2)) =
      stepHdr env cfg encs prev ⟨sec, o₂⟩ ln st := by
  have henc := hag b!"encoding" (by decide)
  have hlen := hag b!"length" (by decide)
  have hind := hag b!"indent" (by decide)
  have hle := hag b!"line_endings" (by decide)
  have hfmt := hag b!"format" (by decide)
  have hver := hag b!"version" (by decide)
  have e1 : lengthOf o₁ ln = lengthOf o₂ ln := by unfold lengthOf; rw [hlen]
  have e2 : fmtCheck sec o₁ ln = fmtCheck sec o₂ ln := by unfold fmtCheck; rw [hfmt]
  have e3 : contentEncoding sec o₁ encs = contentEncoding sec o₂ encs := by unfold contentEncoding; rw [henc]
  have e4 : rcIndent sec o₁ = rcIndent sec o₂ := by unfold rcIndent; rw [hind]
  have e5 : verCheck sec o₁ ln = verCheck sec o₂ ln := by unfold verCheck; rw [hver]
  unfold stepHdr
  simp only []
  by_cases hc : contentSections.contains sec = true
  · rw [if_pos hc, if_pos hc, e1, e2, e3, e4, hle]
    simp only [Except.map_bind]
    rfl
  · rw [if_neg hc, if_neg hc, e5, henc]
    simp only [Except.map_bind]
    rfl

end Diffx.Reader
