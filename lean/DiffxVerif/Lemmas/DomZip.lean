import DiffxVerif.Lemmas.Dom
/-!
# The loader's state as a zipper

While `from_bytes` consumes records, the tree it builds has one open path: the main section, possibly
the last change, possibly the last file of that change.  `updLastChange` / `updLastFile` find that
path again for every record; a zipper state `Z` keeps it explicit, so that placing a content section
is a constructor update (`place_zip`), and `Z.step` says where a section of a given id leads.
-/
namespace Diffx.Dom
open Diffx

theorem updLastChange_snoc (o : DOpts) (p m : ContentSec) (done : List ChangeSec) (c : ChangeSec)
    (f : ChangeSec → ChangeSec) :
    updLastChange ⟨o, p, m, done ++ [c]⟩ f = ⟨o, p, m, done ++ [f c]⟩ := by
  unfold updLastChange
  simp

theorem updLastFile_snoc (o : DOpts) (p m : ContentSec) (done : List ChangeSec) (co : DOpts)
    (cp cm : ContentSec) (fs : List FileSec) (x : FileSec) (f : FileSec → FileSec) :
    updLastFile ⟨o, p, m, done ++ [⟨co, cp, cm, fs ++ [x]⟩]⟩ f =
      ⟨o, p, m, done ++ [⟨co, cp, cm, fs ++ [f x]⟩]⟩ := by
  unfold updLastFile
  rw [updLastChange_snoc]
  simp

/-- where the loader is: at the main level, in an open change (`done` are the finished changes), or
in an open file of an open change (`fs` are the finished files of that change) -/
inductive Z
  | atMain (o : DOpts) (p m : ContentSec)
  | inChange (o : DOpts) (p m : ContentSec) (done : List ChangeSec) (co : DOpts) (cp cm : ContentSec)
  | inFile (o : DOpts) (p m : ContentSec) (done : List ChangeSec) (co : DOpts) (cp cm : ContentSec)
      (fs : List FileSec) (fo : DOpts) (fm fd : ContentSec)

def Z.tree : Z → Tree
  | .atMain o p m => ⟨o, p, m, []⟩
  | .inChange o p m done co cp cm => ⟨o, p, m, done ++ [⟨co, cp, cm, []⟩]⟩
  | .inFile o p m done co cp cm fs fo fm fd => ⟨o, p, m, done ++ [⟨co, cp, cm, fs ++ [⟨fo, fm, fd⟩]⟩]⟩

def Z.cur : Z → Cur
  | .atMain .. => .main
  | .inChange .. => .change
  | .inFile .. => .file

def Z.st (z : Z) : LoadSt := ⟨z.tree, z.cur⟩

/-- the content section in the slot of class `k` at the open level; the main level and a change have no diff,
a file has no preamble -/
def Z.get : Z → Kind → Option ContentSec
  | .atMain _ p _, .preamble => some p
  | .atMain _ _ m, .metadata => some m
  | .inChange _ _ _ _ _ cp _, .preamble => some cp
  | .inChange _ _ _ _ _ _ cm, .metadata => some cm
  | .inFile _ _ _ _ _ _ _ _ _ fm _, .metadata => some fm
  | .inFile _ _ _ _ _ _ _ _ _ _ fd, .diff => some fd
  | _, _ => none

/-- (where `Z.get` has no slot the state stays as it is) -/
def Z.put : Z → Kind → ContentSec → Z
  | .atMain o _ m, .preamble, x => .atMain o x m
  | .atMain o p _, .metadata, x => .atMain o p x
  | .inChange o p m d co _ cm, .preamble, x => .inChange o p m d co x cm
  | .inChange o p m d co cp _, .metadata, x => .inChange o p m d co cp x
  | .inFile o p m d co cp cm fs fo _ fd, .metadata, x => .inFile o p m d co cp cm fs fo x fd
  | .inFile o p m d co cp cm fs fo fm _, .diff, x => .inFile o p m d co cp cm fs fo fm x
  | z, _, _ => z

/-- the sections after which the loader is in this state -/
def Z.phase : Z → List SecId
  | .atMain .. => [SecId.main, SecId.mainPreamble, SecId.mainMeta]
  | .inChange .. => [SecId.change, SecId.changePreamble, SecId.changeMeta]
  | .inFile .. => [SecId.file, SecId.fileMeta, SecId.fileDiff]

/-- the state after a section with id `id`: a content section `x` fills its slot (`o'` is not looked at), a
container header with options `o'` closes what is open at its level or below and opens a fresh change / file (`x` is
not looked at); an id that cannot come next leaves the state alone -/
def Z.step (z : Z) (id : SecId) (o' : DOpts) (x : ContentSec) : Z :=
  match z with
  | .atMain o p m =>
    if id = SecId.mainPreamble then .atMain o x m
    else if id = SecId.mainMeta then .atMain o p x
    else if id = SecId.change then .inChange o p m [] o' newPreamble newMeta
    else z
  | .inChange o p m done co cp cm =>
    if id = SecId.changePreamble then .inChange o p m done co x cm
    else if id = SecId.changeMeta then .inChange o p m done co cp x
    else if id = SecId.file then .inFile o p m done co cp cm [] o' newMeta newDiff
    else if id = SecId.change then .inChange o p m (done ++ [⟨co, cp, cm, []⟩]) o' newPreamble newMeta
    else z
  | .inFile o p m done co cp cm fs fo fm fd =>
    if id = SecId.fileMeta then .inFile o p m done co cp cm fs fo x fd
    else if id = SecId.fileDiff then .inFile o p m done co cp cm fs fo fm x
    else if id = SecId.file then .inFile o p m done co cp cm (fs ++ [⟨fo, fm, fd⟩]) o' newMeta newDiff
    else if id = SecId.change then
      .inChange o p m (done ++ [⟨co, cp, cm, fs ++ [⟨fo, fm, fd⟩]⟩]) o' newPreamble newMeta
    else z

theorem place_zip {z : Z} {k : Kind} {x y : ContentSec} (h : z.get k = some y) :
    place k z.st x = .ok (z.put k x).st := by
  cases z <;> cases k
  case atMain.preamble | atMain.metadata => rfl
  case inChange.preamble | inChange.metadata =>
    exact congrArg (fun t => Except.ok (LoadSt.mk t _)) (updLastChange_snoc ..)
  case inFile.metadata | inFile.diff =>
    exact congrArg (fun t => Except.ok (LoadSt.mk t _)) (updLastFile_snoc ..)
  all_goals cases h

theorem put_get {z : Z} {k : Kind} {y : ContentSec} (h : z.get k = some y) : z.put k y = z := by
  cases z <;> cases k <;> cases h <;> rfl

end Diffx.Dom
