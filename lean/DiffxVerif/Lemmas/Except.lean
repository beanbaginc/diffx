/-!
# `Except`: what core does not provide
-/
namespace Except

/-- Turns `x = .ok b` into an equation between `Option`s, which is decidable as soon as equality on
`α` is: the error types of the model's functions have no `DecidableEq`, so a closed `f … = .ok bytes`
cannot be handed to `decide` as it stands. -/
theorem eq_ok_of_toOption {ε α : Type} {x : Except ε α} {b : α} (h : x.toOption = some b) : x = .ok b := by
  cases x with
  | ok a => exact congrArg Except.ok (Option.some.inj h)
  | error e => cases h

universe u v
variable {ε : Type u} {α β γ : Type v}

theorem ok_bind (a : α) (f : α → Except ε β) : (Except.ok a : Except ε α) >>= f = f a := rfl

theorem error_bind (e : ε) (f : α → Except ε β) : (Except.error e : Except ε α) >>= f = .error e := rfl

theorem bind_ok {x : Except ε α} {f : α → Except ε β} {b : β} (h : x >>= f = .ok b) :
    ∃ a, x = .ok a ∧ f a = .ok b := by
  cases x with
  | error e => cases h
  | ok a => exact ⟨a, rfl, h⟩

theorem bind_error {x : Except ε α} {f : α → Except ε β} {e : ε} (h : x >>= f = .error e) :
    x = .error e ∨ ∃ a, x = .ok a ∧ f a = .error e := by
  cases x with
  | error e' => exact .inl (congrArg Except.error (Except.error.inj h))
  | ok a => exact .inr ⟨a, rfl, h⟩

/-- also for `f <$> x`, which unfolds to `x.map f` -/
theorem map_ok {x : Except ε α} {f : α → β} {b : β} (h : x.map f = .ok b) : ∃ a, x = .ok a ∧ f a = b := by
  cases x with
  | error e => cases h
  | ok a => exact ⟨a, rfl, Except.ok.inj h⟩

theorem map_error {x : Except ε α} {f : α → β} {e : ε} (h : x.map f = .error e) : x = .error e := by
  cases x with
  | error e' => exact congrArg Except.error (Except.error.inj h)
  | ok a => cases h

theorem map_bind (g : β → γ) (x : Except ε α) (f : α → Except ε β) :
    (x >>= f).map g = x >>= fun a => (f a).map g := by
  cases x <;> rfl

theorem map_map (g : β → γ) (f : α → β) (x : Except ε α) : (x.map f).map g = x.map (fun a => g (f a)) := by
  cases x <;> rfl

theorem ite_bind (c : Prop) [Decidable c] (x y : Except ε α) (f : α → Except ε β) :
    (if c then x else y) >>= f = if c then x >>= f else y >>= f := by split <;> rfl

theorem ite_error_ne_ok {c : Prop} [Decidable c] {a b : ε} {x : α} :
    (if c then (.error a : Except ε α) else .error b) ≠ .ok x := by
  split <;> nofun

/-- one arm of a cascade `if b₁ then .ok a₁ else if b₂ …`: it gave the answer, or its test failed and the rest did -/
theorem ite_ok {b : Bool} {x : Except ε α} {a a' : α}
    (h : (if b then .ok a else x) = .ok a') : a' = a ∨ (b = false ∧ x = .ok a') := by
  cases b with
  | true => exact .inl (Except.ok.inj h).symm
  | false => exact .inr ⟨rfl, h⟩

/-- from a general theorem's `∃ a, x = .ok (a, k) ∧ P a` to `P a` for the `a` that evaluating `x` produced -/
theorem of_exists_ok {x : Except ε (α × β)} {k : β} {P : α → Prop} (h : ∃ a, x = .ok (a, k) ∧ P a)
    {a : α} {k' : β} (hx : x = .ok (a, k')) : P a := by
  obtain ⟨a', h1, h2⟩ := h
  cases (Prod.mk.inj (Except.ok.inj (h1.symm.trans hx))).1
  exact h2

theorem mapM_fixed {g : α → Except ε α} (hg : ∀ a a', g a = .ok a' → g a' = .ok a') :
    ∀ {l l' : List α}, l.mapM g = .ok l' → l'.mapM g = .ok l' := by
  intro l
  induction l with
  | nil => intro l' h; simp at h; cases h; rfl
  | cons x xs ih =>
    intro l' h
    rw [List.mapM_cons] at h
    obtain ⟨x', hx, h⟩ := Except.bind_ok h
    obtain ⟨xs', hxs, h⟩ := Except.bind_ok h
    cases h
    rw [List.mapM_cons, hg x x' hx, Except.ok_bind, ih hxs]
    rfl

theorem mapM_length {g : α → Except ε β} :
    ∀ {l : List α} {l' : List β}, l.mapM g = .ok l' → l'.length = l.length := by
  intro l
  induction l with
  | nil => intro l' h; simp at h; cases h; rfl
  | cons x xs ih =>
    intro l' h
    rw [List.mapM_cons] at h
    obtain ⟨x', hx, h⟩ := Except.bind_ok h
    obtain ⟨xs', hxs, h⟩ := Except.bind_ok h
    cases h
    simp [ih hxs]

end Except
