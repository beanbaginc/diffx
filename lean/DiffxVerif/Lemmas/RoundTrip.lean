import DiffxVerif.Model.Writer
import DiffxVerif.Lemmas.Split
import DiffxVerif.Lemmas.HeaderLine
import DiffxVerif.Lemmas.Prepare
import DiffxVerif.Lemmas.ReadContent
/-!
# What the writer emits for one section, and what reading it back rests on

Of the header line: `sortOpts` sorts and permutes, and the joined options are `Spec.joinPairs` of the pairs
(`joinText_toAscii`).  Of the content: `_prepare_content` is taken in two stages.  The first, `prepCore`, yields
the `line_endings` value, the BOM-free newline bytes and the encoded data; `PreparedWith` / `PreparedData` say in
closed form which answers of the environment those are, and each answer determines the next
(`PreparedWith_unique`).  The second, `prepFinish` of `Lemmas/Prepare.lean`, appends the newline and indents, and
involves no codec: the reader undoes it whatever the data, given a newline that is unbordered and holds no space
(`indent_inverse`: indenting commutes with `splitLines`, and `stripIndent` removes it).  What the first stage
needs of the codec for the content to be read back is collected in `TextLaws` / `DiffLaws`.
-/
namespace Diffx
open Diffx.Writer

theorem insertOpt_perm (p : Bytes × HVal) (l : List (Bytes × HVal)) : (insertOpt p l).Perm (p :: l) := by
  induction l with
  | nil => exact List.Perm.refl _
  | cons a r ih =>
    unfold insertOpt
    split
    · exact List.Perm.refl _
    · exact (List.Perm.cons a ih).trans (List.Perm.swap p a r)

theorem sortOpts_perm {l : List (Bytes × HVal)} : (sortOpts l).Perm l := by
  unfold sortOpts
  induction l with
  | nil => exact List.Perm.refl _
  | cons a r ih => exact (insertOpt_perm a _).trans (List.Perm.cons a ih)

theorem insertOpt_sorted (p : Bytes × HVal) (l : List (Bytes × HVal))
    (h : l.Pairwise (fun a b => a.1 ≤ b.1)) : (insertOpt p l).Pairwise (fun a b => a.1 ≤ b.1) := by
  induction l with
  | nil => simp [insertOpt]
  | cons a r ih =>
    unfold insertOpt
    rw [List.pairwise_cons] at h
    split
    · rename_i hle
      refine List.pairwise_cons.mpr ⟨?_, List.pairwise_cons.mpr h⟩
      intro q hq
      rcases List.mem_cons.mp hq with rfl | hq
      · exact hle
      · exact List.le_trans hle (h.1 q hq)
    · rename_i hle
      refine List.pairwise_cons.mpr ⟨?_, ih h.2⟩
      intro q hq
      rcases List.mem_cons.mp ((insertOpt_perm p r).mem_iff.mp hq) with rfl | hq
      · exact (List.le_total a.1 q.1).resolve_right hle
      · exact h.1 q hq

theorem sortOpts_sorted (l : List (Bytes × HVal)) : (sortOpts l).Pairwise (fun a b => a.1 ≤ b.1) := by
  unfold sortOpts
  induction l with
  | nil => simp
  | cons a r ih => exact insertOpt_sorted a _ ih

/-- the text of the joined options, as `renderHeader` builds it -/
def joinText : List Text → Text
  | [] => []
  | [p] => p
  | p :: ps => p ++ [44, 32] ++ joinText ps

theorem intersperse_flatten_eq (l : List Text) : (l.intersperse [44, 32]).flatten = joinText l := by
  induction l with
  | nil => rfl
  | cons a r ih =>
    cases r with
    | nil => simp [joinText]
    | cons b r' =>
      rw [List.intersperse_cons_cons, List.flatten_cons, List.flatten_cons, ih]
      simp [joinText]

theorem joinText_toAscii (l : List (Bytes × HVal)) :
    (joinText (l.map (fun p => Text.ofAscii p.1 ++ [61] ++ p.2.text))).toAscii =
      Spec.joinPairs (l.map (fun p => (p.1, p.2.text.toAscii))) := by
  induction l with
  | nil => rfl
  | cons a r ih =>
    cases r with
    | nil =>
      simp only [List.map_cons, List.map_nil, joinText, Spec.joinPairs, Spec.renderPair,
        toAscii_append, toAscii_ofAscii]
      rfl
    | cons b r' =>
      simp only [List.map_cons] at ih ⊢
      simp only [joinText, Spec.joinPairs, Spec.renderPair, toAscii_append, toAscii_ofAscii, ih]
      rfl

theorem joinText_isEmpty (l : List (Bytes × HVal)) :
    (joinText (l.map (fun p => Text.ofAscii p.1 ++ [61] ++ p.2.text))).isEmpty = l.isEmpty := by
  cases l with
  | nil => rfl
  | cons a r => cases r <;> simp [joinText]

theorem secId_bytes_ascii (sec : SecId) : ∀ b ∈ sec.bytes, b < 128 :=
  fun b hb => UInt8.lt_iff_toNat_lt.2 (Header.lineChar_facts b (Header.secId_bytes_lineChar sec b hb)).1

/-- the part of `_prepare_content` before the final newline is appended: the
`line_endings` value, the BOM-free newline bytes and the encoded data -/
def prepCore (env : Env) (cfg : Config) (st : St) (content : Arg)
    (lineEndings : Option Text) (encoding : Option Name) (inherit : Bool) : E (Text × Bytes × Bytes) := do
  checkContent content
  checkLe lineEndings
  let r ← pick env cfg (effEncoding st encoding inherit) content lineEndings
  let nl ← liftEnv (stripBom env cfg r.2.1 (effEncoding st encoding inherit))
  pure (r.1, nl, r.2.2)

theorem prepareContent_eq (env : Env) (cfg : Config) (st : St) (content : Arg) (indent : Option Int)
    (le : Option Text) (enc : Option Name) (inherit : Bool) :
    prepareContent env cfg st content indent le enc inherit =
      (do let r ← prepCore env cfg st content le enc inherit
          let d ← prepFinish indent r.2.1 r.2.2
          pure (d, r.1)) := by
  rw [prepareContent_shape, prepCore]
  simp only [bind_assoc, pure_bind]

theorem liftEnv_ok {α} {r : EnvR α} {a : α} (h : liftEnv r = .ok a) : r = .ok a := by
  cases r <;> simp [liftEnv] at h
  rw [h]

theorem guessText_snd (t : Text) : (guessText t).2 = nlText (guessText t).1 := by
  unfold guessText
  split
  · split <;> rfl
  · rfl

/-- the `line_endings` value of a kind: `'dos'` / `'unix'` -/
def leKind (dos : Bool) : Text := if dos then Text.ofAscii b!"dos" else Text.ofAscii b!"unix"

theorem toAscii_of_leKind {l : Text} {dos : Bool} (h : l = leKind dos) :
    l.toAscii = if dos then b!"dos" else b!"unix" := by
  subst h
  cases dos <;> rfl

theorem leKind_ne (dos : Bool) :
    (leKind dos != Text.ofAscii b!"unix" && leKind dos != Text.ofAscii b!"dos") = false := by
  cases dos <;> decide

theorem leKind_beq_dos (dos : Bool) : (leKind dos == Text.ofAscii b!"dos") = dos := by
  cases dos <;> decide

theorem leKind_inj {a b : Bool} (h : leKind a = leKind b) : a = b := by
  rw [← leKind_beq_dos a, h, leKind_beq_dos]

theorem leKind_toAscii_beq_dos (dos : Bool) : ((leKind dos).toAscii == b!"dos") = dos := by
  cases dos <;> decide

theorem leKind_cases (dos : Bool) : (leKind dos).toAscii = b!"dos" ∨ (leKind dos).toAscii = b!"unix" := by
  cases dos
  · exact Or.inr (by decide)
  · exact Or.inl (by decide)

/-- `h` is the guard of `checkLe`, negated, as `split` leaves it -/
theorem leKind_of_checked {l : Text}
    (h : ¬ (l != Text.ofAscii b!"unix" && l != Text.ofAscii b!"dos") = true) :
    l = leKind (l == Text.ofAscii b!"dos") := by
  unfold leKind
  by_cases hd : l = Text.ofAscii b!"dos"
  · simp [hd]
  · simp [hd] at h ⊢; exact h

/-- which newline bytes `nl` and which `line_endings` value `leOut`
`_prepare_content` uses for a content, the given `line_endings` / `encoding`
arguments and the writer state -/
def PreparedWith (env : Env) (cfg : Config) (st : St) (content : Arg) (le : Option Text)
    (enc : Option Name) (inherit : Bool) (nl : Bytes) (leOut : Text) : Prop :=
  -- effective encoding: the argument when truthy, else (sections that inherit) the current one
  let eff : Option Name := if !truthy enc && inherit then st.curEncoding else enc
  -- encoding of the newline for `bytes` content
  let nlEnc : Name := if truthy eff then eff.getD [] else Text.ofAscii b!"ascii"
  ∃ dos : Bool,
    leOut = leKind dos ∧
    (∀ l, le = some l → l = leOut) ∧
    match content with
    | .str t =>
      (le = none → dos = (guessText t).1) ∧
      ∃ e raw, eff = some e ∧ env.encode e (nlText dos) = .ok raw ∧ stripBom env cfg raw eff = .ok nl
    | .bytes b =>
      (match le with
      | some _ => ∃ raw, env.encode nlEnc (nlText dos) = .ok raw ∧ stripBom env cfg raw eff = .ok nl
      | none =>
        ∃ rawU rawD u d,
          env.encode nlEnc [10] = .ok rawU ∧ stripBom env cfg rawU (some nlEnc) = .ok u ∧
          env.encode nlEnc [13, 10] = .ok rawD ∧ stripBom env cfg rawD (some nlEnc) = .ok d ∧
          dos = (match findSub u b with
                 | some i => endsWith (b.take (i + u.length)) d
                 | none => false) ∧
          stripBom env cfg (if dos then d else u) eff = .ok nl)
    | _ => False

/-- the encoded data `_prepare_content` starts from -/
def PreparedData (env : Env) (st : St) (content : Arg) (enc : Option Name) (inherit : Bool) (d : Bytes) : Prop :=
  match content with
  | .str t => ∃ e, (if !truthy enc && inherit then st.curEncoding else enc) = some e ∧ env.encode e t = .ok d
  | .bytes b => d = b
  | _ => False

theorem prepCore_ok {env : Env} {cfg : Config} {st : St} {content : Arg}
    {le : Option Text} {enc : Option Name} {inherit : Bool} {leOut : Text} {nl d : Bytes}
    (h : prepCore env cfg st content le enc inherit = .ok (leOut, nl, d)) :
    PreparedWith env cfg st content le enc inherit nl leOut ∧ PreparedData env st content enc inherit d := by
  unfold prepCore at h
  unfold PreparedWith PreparedData
  -- in each case: the guard of `checkLe`, then one `bind_ok` per call of the environment in the order of the `do`
  -- block, the results named as `PreparedWith` names them
  -- `checkContent` lets through a non-empty `str` and non-empty `bytes` only
  rcases content with (_ | ⟨a, t⟩) | (_ | ⟨a, b⟩) | j | _
  case str.nil | bytes.nil | dict | other => cases h
  · -- str
    cases le with
    | none =>
      simp only [checkContent, checkLe, pick, encodeWith, effEncoding, bind_assoc, pure_bind] at h
      generalize (if (!truthy enc && inherit) = true then st.curEncoding else enc) = eff at h ⊢
      rcases eff with _ | e
      · cases h
      dsimp only at h ⊢
      obtain ⟨raw, hraw, h⟩ := Except.bind_ok h
      obtain ⟨d', hd, h⟩ := Except.bind_ok h
      obtain ⟨nl', hnl, h⟩ := Except.bind_ok h
      cases h
      rw [guessText_snd] at hraw
      exact ⟨⟨(guessText (a :: t)).1, rfl, by simp, fun _ => rfl, e, raw, rfl, liftEnv_ok hraw, liftEnv_ok hnl⟩,
        e, rfl, liftEnv_ok hd⟩
    | some l =>
      simp only [checkContent, checkLe, pick, encodeWith, effEncoding, bind_assoc, pure_bind, Except.ite_bind] at h
      generalize (if (!truthy enc && inherit) = true then st.curEncoding else enc) = eff at h ⊢
      rcases eff with _ | e
      · split at h <;> cases h
      dsimp only at h ⊢
      split at h
      · cases h
      · rename_i hl
        obtain ⟨raw, hraw, h⟩ := Except.bind_ok h
        obtain ⟨d', hd, h⟩ := Except.bind_ok h
        obtain ⟨nl', hnl, h⟩ := Except.bind_ok h
        cases h
        exact ⟨⟨leOut == Text.ofAscii b!"dos", leKind_of_checked hl, by simp, by simp, e, raw, rfl, liftEnv_ok hraw,
          liftEnv_ok hnl⟩, e, rfl, liftEnv_ok hd⟩
  · -- bytes
    cases le with
    | none =>
      simp only [checkContent, checkLe, pick, effEncoding, nlEnc, bind_assoc, pure_bind] at h
      dsimp only
      obtain ⟨rawU, hrawU, h⟩ := Except.bind_ok h
      obtain ⟨nlU, hnlU, h⟩ := Except.bind_ok h
      obtain ⟨rawD, hrawD, h⟩ := Except.bind_ok h
      obtain ⟨nlD, hnlD, h⟩ := Except.bind_ok h
      obtain ⟨nl', hnl, h⟩ := Except.bind_ok h
      cases h
      -- the kind is whatever the model computes from `nlU`, `nlD`: `leKind ?dos` is matched by `rfl`
      exact ⟨⟨_, rfl, by simp, rawU, rawD, nlU, nlD, liftEnv_ok hrawU, liftEnv_ok hnlU, liftEnv_ok hrawD, liftEnv_ok hnlD,
        rfl, liftEnv_ok hnl⟩, rfl⟩
    | some l =>
      simp only [checkContent, checkLe, pick, effEncoding, nlEnc, bind_assoc, pure_bind, Except.ite_bind] at h
      dsimp only
      split at h
      · cases h
      · rename_i hl
        obtain ⟨raw, hraw, h⟩ := Except.bind_ok h
        obtain ⟨nl', hnl, h⟩ := Except.bind_ok h
        cases h
        exact ⟨⟨leOut == Text.ofAscii b!"dos", leKind_of_checked hl, by simp, raw, liftEnv_ok hraw,
          liftEnv_ok hnl⟩, rfl⟩

theorem PreparedWith_unique {env : Env} {cfg : Config} {st : St} {content : Arg} {le : Option Text}
    {enc : Option Name} {inherit : Bool} {nl nl' : Bytes} {leOut : Text}
    (h : PreparedWith env cfg st content le enc inherit nl leOut)
    (h' : PreparedWith env cfg st content le enc inherit nl' leOut) : nl = nl' := by
  unfold PreparedWith at h h'
  dsimp only at h h'
  obtain ⟨dos, h1, _, h3⟩ := h
  obtain ⟨dos', h1', _, h3'⟩ := h'
  have hd : dos = dos' := leKind_inj (by rw [← h1, ← h1'])
  subst hd
  -- each answer of the environment determines the next
  rcases content with t | b | j | _
  · obtain ⟨_, e, raw, he, h4, h5⟩ := h3
    obtain ⟨_, e', raw', he', h4', h5'⟩ := h3'
    cases he.symm.trans he'
    cases h4.symm.trans h4'
    cases h5.symm.trans h5'
    rfl
  · rcases le with _ | l
    · obtain ⟨rawU, rawD, u, d, a1, a2, a3, a4, a5, a6⟩ := h3
      obtain ⟨rawU', rawD', u', d', b1, b2, b3, b4, b5, b6⟩ := h3'
      cases a1.symm.trans b1
      cases a2.symm.trans b2
      cases a3.symm.trans b3
      cases a4.symm.trans b4
      cases a6.symm.trans b6
      rfl
    · obtain ⟨raw, a1, a2⟩ := h3
      obtain ⟨raw', b1, b2⟩ := h3'
      cases a1.symm.trans b1
      cases a2.symm.trans b2
      rfl
  · exact h3.elim
  · exact h3.elim

theorem prepareContent_ok_iff {env : Env} {cfg : Config} {st : St} {content : Arg} {indent : Option Int}
    {le : Option Text} {enc : Option Name} {inherit : Bool} {data : Bytes} {leOut : Text} :
    prepareContent env cfg st content indent le enc inherit = .ok (data, leOut) ↔
      ∃ nl d, prepCore env cfg st content le enc inherit = .ok (leOut, nl, d) ∧
        prepFinish indent nl d = .ok data := by
  rw [prepareContent_eq]
  constructor
  · intro h
    obtain ⟨⟨l, nl, d⟩, h1, h⟩ := Except.bind_ok h
    obtain ⟨r, h2, h⟩ := Except.bind_ok h
    cases h
    exact ⟨nl, d, h1, h2⟩
  · rintro ⟨nl, d, h1, h2⟩
    rw [h1]
    simp only [bind, Except.bind]
    rw [h2]
    rfl

/-- `if not content.endswith(newline): content += newline` of `_prepare_content` -/
def normBytes (b nl : Bytes) : Bytes :=
  if endsWith b nl then b else b ++ nl

theorem normBytes_suffix (d nl : Bytes) : nl <:+ normBytes d nl := by
  unfold normBytes
  split
  · rename_i he
    exact endsWith_iff_suffix.1 he
  · exact List.suffix_append _ _

theorem normBytes_ends (b nl : Bytes) : endsWith (normBytes b nl) nl = true :=
  endsWith_iff_suffix.mpr (normBytes_suffix b nl)

theorem normBytes_ne_nil {b : Bytes} (hb : b ≠ []) (nl : Bytes) : normBytes b nl ≠ [] := by
  unfold normBytes
  split
  · exact hb
  · exact fun h => hb (List.append_eq_nil_iff.mp h).1

theorem normBytes_of_ends {b nl : Bytes} (h : endsWith b nl = true) : normBytes b nl = b := by
  unfold normBytes
  rw [if_pos h]

theorem normBytes_idem (b nl : Bytes) : normBytes (normBytes b nl) nl = normBytes b nl :=
  normBytes_of_ends (normBytes_ends b nl)

theorem prepFinish_norm (indent : Option Int) (nl d : Bytes) :
    prepFinish indent nl (normBytes d nl) = prepFinish indent nl d := by
  have e1 : (if endsWith (normBytes d nl) nl = true then normBytes d nl else normBytes d nl ++ nl) =
      (if endsWith d nl = true then d else d ++ nl) := normBytes_idem d nl
  unfold prepFinish
  simp only [e1]

theorem prepFinish_none (nl d : Bytes) : prepFinish none nl d = .ok (normBytes d nl) := rfl

theorem prepFinish_ok {indent : Option Int} {nl d data : Bytes} (h : prepFinish indent nl d = .ok data) :
    (indent.getD 0 = 0 ∧ data = normBytes d nl) ∨
    (indent.getD 0 ≠ 0 ∧ nl ≠ [] ∧
      data = ((splitLines (normBytes d nl) nl true).map
        (List.replicate (indent.getD 0).toNat (32 : UInt8) ++ ·)).flatten) := by
  unfold prepFinish at h
  rcases indent with _ | n
  · exact Or.inl ⟨rfl, (Except.ok.inj h).symm⟩
  · dsimp only at h
    by_cases hz : n = 0
    · rw [if_pos hz] at h
      exact Or.inl ⟨hz, (Except.ok.inj h).symm⟩
    · rw [if_neg hz] at h
      cases hne : nl.isEmpty with
      | true => rw [hne] at h; cases h
      | false =>
        rw [hne] at h
        exact Or.inr ⟨hz, by simpa using hne, (Except.ok.inj h).symm⟩

theorem prepFinish_suffix {indent : Option Int} {nl d data : Bytes} (h : prepFinish indent nl d = .ok data) :
    nl <:+ data := by
  rcases prepFinish_ok h with ⟨-, rfl⟩ | ⟨-, hne, rfl⟩
  · exact normBytes_suffix d nl
  · obtain ⟨ls, x, hx⟩ := splitLines_last_suffix hne (normBytes_suffix d nl)
    rw [hx]
    simp only [List.map_append, List.map_cons, List.map_nil, List.flatten_append, List.flatten_cons,
      List.flatten_nil, List.append_nil]
    rw [← List.append_assoc, ← List.append_assoc]
    exact List.suffix_append _ _

theorem prepFinish_indent_le {i : Int} {nl d data : Bytes}
    (h : prepFinish (some i) nl d = .ok data) : i.toNat ≤ data.length := by
  rcases prepFinish_ok h with ⟨hz, -⟩ | ⟨-, hne, rfl⟩
  · simp only [Option.getD_some] at hz
    omega
  · obtain ⟨ls, x, hx⟩ := splitLines_last_suffix hne (normBytes_suffix d nl)
    rw [hx]
    simp only [Option.getD_some, List.map_append, List.map_cons, List.map_nil, List.flatten_append,
      List.flatten_cons, List.flatten_nil, List.append_nil, List.length_append, List.length_replicate]
    omega

theorem prepareContent_indent_le {env : Env} {cfg : Config} {st : St} {content : Arg} {i : Int}
    {le : Option Text} {enc : Option Name} {inherit : Bool} {data : Bytes} {leOut : Text}
    (h : prepareContent env cfg st content (some i) le enc inherit = .ok (data, leOut)) :
    i.toNat ≤ data.length := by
  obtain ⟨nl, d, _, h2⟩ := prepareContent_ok_iff.mp h
  exact prepFinish_indent_le h2

theorem stripIndent_spaces (n : Nat) (l : Bytes) :
    Reader.stripIndent n (List.replicate n (32 : UInt8) ++ l) = l := by
  unfold Reader.stripIndent
  have : n ≤ ((List.replicate n (32 : UInt8) ++ l).takeWhile (· == 32)).length := by
    rw [List.takeWhile_append_of_pos (by simp)]
    simp
  rw [Nat.min_eq_left this]
  simp

theorem indent_inverse (raw nl : Bytes) (n : Nat) (hn : nl ≠ []) (hu : Unbordered nl)
    (hsp : (32 : UInt8) ∉ nl) (hend : nl <:+ raw) :
    ((splitLines (((splitLines raw nl true).map (List.replicate n (32 : UInt8) ++ ·)).flatten) nl true).map
        (Reader.stripIndent n)).flatten = raw ∧
    (splitLines (((splitLines raw nl true).map (List.replicate n (32 : UInt8) ++ ·)).flatten) nl true).length =
      (splitLines raw nl true).length := by
  -- `raw` is its lines `init`, each followed by `nl` (nothing after the last, as `raw` ends with `nl`).  Indented,
  -- these are again newline-free lines each followed by `nl` (`nlFree_replicate`: spaces in front of a line create no
  -- occurrence of a newline without a space), so splitting finds exactly them (`splitLines_of_lines`)
  obtain ⟨init, last, h⟩ := pySplit_decomp raw hn hu
  obtain ⟨rfl, hi⟩ := h.suffix_iff.mp hend
  have h2 := h.data_eq
  rw [h.keep]
  simp only [hend, if_true, List.append_nil] at h2 ⊢
  have e1 : (init.map (· ++ nl)).map (List.replicate n (32 : UInt8) ++ ·) =
      (init.map (List.replicate n (32 : UInt8) ++ ·)).map (· ++ nl) := by
    simp [List.map_map]
  rw [e1, splitLines_of_lines nl hn hu _ (by simpa using hi) (by
    intro x hx
    obtain ⟨y, hy, rfl⟩ := List.mem_map.mp hx
    exact nlFree_replicate 32 n hn hsp (h.init_free y hy)) true, if_pos rfl]
  refine ⟨?_, by simp⟩
  rw [h2]
  congr 1
  simp only [List.map_map]
  apply List.map_congr_left
  intro x _
  simp only [Function.comp, List.append_assoc]
  exact stripIndent_spaces n _

/-- **Codec laws for a text section.**  Everything the round trip of a text `t`
needs from the environment.  Only the codec is constrained (plus the ASCII-ness of
the effective encoding name, so that it survives the header); nothing here
mentions the reader. -/
structure TextLaws (env : Env) (cfg : Config) (wst : Writer.St) (t : Text) (le : Option Text)
    (enc : Option Name) (leOut : Text) where
  /-- the effective encoding (`encoding` when truthy, else the current one) is named in ASCII -/
  encName : Bytes
  heff : (if truthy enc then enc else wst.curEncoding) = some (Text.ofAscii encName)
  /-- the kind `leOut` stands for -/
  dos : Bool
  hle : leOut = leKind dos
  /-- the newline of that kind, encoded … -/
  raw : Bytes
  henc : env.encode (Text.ofAscii encName) (nlText dos) = .ok raw
  /-- … and BOM-free -/
  nl : Bytes
  hbom : stripBom env cfg raw (some (Text.ofAscii encName)) = .ok nl
  /-- what makes splitting at it and indenting with spaces invertible (`indent_inverse`) -/
  hne : nl ≠ []
  hu : Unbordered nl
  hsp : (32 : UInt8) ∉ nl
  /-- the un-indented prepared content: the encoded text, newline appended when missing -/
  plain : Bytes
  hplain : prepareContent env cfg wst (.str t) none le enc true = .ok (plain, leOut)
  /-- the reader's last steps: `content.decode`, `newline.decode`, and the check that the one ends with the other -/
  decoded : Text
  hdec : env.decode (Text.ofAscii encName) plain = .ok decoded
  hdecNl : env.decode (Text.ofAscii encName) nl = .ok (nlText dos)
  hendT : endsWith decoded (nlText dos) = true

/-- `len(lines)` of `_read_raw_content`: what the section's content adds to the reader's line counter -/
def TextLaws.lines {env cfg wst t le enc leOut} (l : TextLaws env cfg wst t le enc leOut) : Nat :=
  (splitLines l.plain l.nl true).length

/-- **Codec laws for a diff section**: writer and reader compute the newline differently, and get the same bytes `nl`. -/
structure DiffLaws (env : Env) (cfg : Config) (wst : Writer.St) (b : Bytes) (le : Option Text)
    (enc : Option Name) (leOut : Text) where
  /-- the section's own encoding, when given, is named in ASCII -/
  encName : Option Bytes
  henc : enc = encName.map Text.ofAscii
  /-- the kind `leOut` stands for -/
  dos : Bool
  hle : leOut = leKind dos
  nl : Bytes
  /-- `nl` is the newline the writer works with (it encodes with `enc or 'ascii'` but removes
  the BOM registered for `enc`, and twice when it guesses the kind) … -/
  hw : PreparedWith env cfg wst (.bytes b) le enc false nl leOut
  /-- … and also the newline the reader computes for `line_endings=leOut` (`get_newline_for_type`):
  `strip_bom(NEWLINE_FORMATS[leOut].encode(e), e)` with `e = 'ascii' if enc is None else enc`, so `''` stays `''` -/
  rawR : Bytes
  hencR : env.encode (enc.getD (Text.ofAscii b!"ascii")) (nlText dos) = .ok rawR
  hbomR : stripBom env cfg rawR (some (enc.getD (Text.ofAscii b!"ascii"))) = .ok nl
  hne : nl ≠ []

theorem eff_inherit (enc : Option Name) (cur : Option Name) :
    (if (!truthy enc && true) = true then cur else enc) = (if truthy enc then enc else cur) := by
  cases truthy enc <;> simp

theorem TextLaws.prepared_nl {env cfg wst t le enc leOut} (laws : TextLaws env cfg wst t le enc leOut) {nl' : Bytes}
    (hw : PreparedWith env cfg wst (.str t) le enc true nl' leOut) : nl' = laws.nl := by
  refine PreparedWith_unique hw ?_
  obtain ⟨dos', e1, h5, h6, -⟩ := hw
  cases leKind_inj (e1.symm.trans laws.hle)
  have heff := (eff_inherit enc wst.curEncoding).trans laws.heff
  exact ⟨laws.dos, laws.hle, h5, h6, _, laws.raw, heff, laws.henc, heff ▸ laws.hbom⟩

theorem TextLaws.stages {env cfg wst t le enc leOut} (laws : TextLaws env cfg wst t le enc leOut)
    {indent : Option Int} {data : Bytes}
    (hp : prepareContent env cfg wst (.str t) indent le enc true = .ok (data, leOut)) :
    ∃ d, prepCore env cfg wst (.str t) le enc true = .ok (leOut, laws.nl, d) ∧
      prepFinish indent laws.nl d = .ok data := by
  obtain ⟨nl', d, h1, h2⟩ := prepareContent_ok_iff.mp hp
  obtain rfl : nl' = laws.nl := laws.prepared_nl (prepCore_ok h1).1
  exact ⟨d, h1, h2⟩

theorem TextLaws.nl_suffix_plain {env cfg wst t le enc leOut} (laws : TextLaws env cfg wst t le enc leOut) :
    laws.nl <:+ laws.plain := by
  obtain ⟨d, _, h⟩ := laws.stages laws.hplain
  exact prepFinish_suffix h

/-- the `if` is the reader's: `_read_raw_content` strips only under `if indent:` -/
theorem TextLaws.strip_indent {env cfg wst t le enc leOut} (laws : TextLaws env cfg wst t le enc leOut)
    {indent : Option Int} (hi : ∀ i, indent = some i → 0 ≤ i) {data : Bytes}
    (hp : prepareContent env cfg wst (.str t) indent le enc true = .ok (data, leOut)) :
    (if (indent.getD 0).toNat = 0 then data
      else ((splitLines data laws.nl true).map (Reader.stripIndent (indent.getD 0).toNat)).flatten) = laws.plain ∧
    (splitLines data laws.nl true).length = laws.lines := by
  obtain ⟨d, h1, h2⟩ := laws.stages hp
  obtain ⟨d', h1', h2'⟩ := laws.stages laws.hplain
  rw [h1] at h1'
  cases h1'
  rw [prepFinish_none] at h2'
  have h2 := prepFinish_ok h2
  rw [Except.ok.inj h2'] at h2
  rcases h2 with ⟨hz, rfl⟩ | ⟨hz, -, rfl⟩
  · rw [hz]
    exact ⟨rfl, rfl⟩
  · have hpos : (indent.getD 0).toNat ≠ 0 := by
      rcases indent with _ | i
      · exact absurd rfl hz
      · have := hi i rfl
        simp only [Option.getD_some] at hz ⊢
        omega
    obtain ⟨a1, a2⟩ := indent_inverse _ laws.nl (indent.getD 0).toNat laws.hne laws.hu laws.hsp laws.nl_suffix_plain
    exact ⟨by rw [if_neg hpos]; exact a1, a2⟩

/-- **What `_read_content` returns on a prepared text**, however the reader comes by the newline (`hnl`): declared
in the header (`C01_content_text`) or detected on the bytes (metadata) -/
theorem TextLaws.read_back {env cfg wst t le enc leOut} (laws : TextLaws env cfg wst t le enc leOut)
    {indent : Option Int} {data : Bytes}
    (hp : prepareContent env cfg wst (.str t) indent le enc true = .ok (data, leOut))
    (hi : ∀ i, indent = some i → 0 ≤ i) (hlen : data.length ≤ Reader.maxRead) {ln : Nat} {leOpt : Option OptVal}
    (hnl : Reader.rcNewline env cfg ln data (some (Text.ofAscii laws.encName)) leOpt = .ok laws.nl)
    (rest : Bytes) (f : Option Bool) :
    Reader.readContent env cfg ⟨data ++ rest, ln, f⟩ data.length
        (some (.str laws.encName)) (indent.map OptVal.int) leOpt false =
      .ok (.text laws.decoded, ⟨rest, ln + laws.lines, f⟩) := by
  obtain ⟨d, -, h2⟩ := laws.stages hp
  obtain ⟨hcontent, hlines⟩ := laws.strip_indent hi hp
  have hind : Reader.rcInd ln (indent.map OptVal.int) = .ok (indent.getD 0).toNat := by
    rcases indent with _ | i
    · rfl
    · simp only [Option.map_some, Reader.rcInd, Int.not_lt.mpr (hi i rfl), if_false, Option.getD_some]
  rw [Reader.readContent_stages (enc := some (Text.ofAscii laws.encName)) rest f false rfl hlen hnl
    laws.hne (prepFinish_suffix h2) hind, hcontent, hlines,
    Reader.rcDecode_text ln laws.hdec laws.hdecNl laws.hendT]
  rfl

theorem DiffLaws.enc_toAscii {env cfg wst b le enc leOut} (laws : DiffLaws env cfg wst b le enc leOut) :
    enc.map Text.toAscii = laws.encName := by
  have h := laws.henc
  generalize laws.encName = en at h
  subst h
  cases en <;> simp [toAscii_ofAscii]

/-- the prepared diff is the bytes given, the newline of the laws appended when missing -/
theorem diff_prepared_eq {env : Env} {cfg : Config} {wst : St} {b : Bytes} {le : Option Text} {enc : Option Name}
    {data : Bytes} {leOut : Text}
    (hp : prepareContent env cfg wst (.bytes b) none le enc false = .ok (data, leOut))
    (laws : DiffLaws env cfg wst b le enc leOut) : data = normBytes b laws.nl := by
  obtain ⟨nl', d, h1, h2⟩ := prepareContent_ok_iff.mp hp
  obtain ⟨hw', hd⟩ := prepCore_ok h1
  cases PreparedWith_unique hw' laws.hw
  cases (hd : d = b)
  exact (Except.ok.inj h2).symm

end Diffx
