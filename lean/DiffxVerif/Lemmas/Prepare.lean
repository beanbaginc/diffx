import DiffxVerif.Model.Writer
import DiffxVerif.Lemmas.Except
/-!
# `_prepare_content` as a pipeline

`Writer.prepareContent` is one `do` block whose `match`es carry the rest of the block inside
every arm (join points), so no proof can take it apart with `bind` lemmas.  Here the stages are
named and `prepareContent_shape` states once that the function is their composition; everything
else about `prepareContent` is proved stage by stage from that.
-/
namespace Diffx.Writer
open Diffx

/-- `if not content` -/
def checkContent : Arg → E Unit
  | .str [] => throw .contentError
  | .bytes [] => throw .contentError
  | .str _ => pure ()
  | .bytes _ => pure ()
  | _ => throw .otherError

/-- `line_endings`, when given, is `'unix'` or `'dos'` -/
def checkLe : Option Text → E Unit
  | some le => if le != Text.ofAscii b!"unix" && le != Text.ofAscii b!"dos" then throw .optionError else pure ()
  | none => pure ()

/-- `if not encoding and inherit_encoding: encoding = self._cur_encoding`: the name text is encoded with -/
def effEncoding (st : St) (encoding : Option Name) (inherit : Bool) : Option Name :=
  if !truthy encoding && inherit then st.curEncoding else encoding

/-- the codec for the newline of bytes content: `encoding or 'ascii'` -/
def nlEnc (eff : Option Name) : Name := if truthy eff then eff.getD [] else Text.ofAscii b!"ascii"

/-- `text.encode(encoding)`; with `encoding` still `None` Python raises `TypeError` -/
def encodeWith (env : Env) (eff : Option Name) (t : Text) : E Bytes :=
  match eff with
  | none => throw .otherError
  | some e => liftEnv (env.encode e t)

/-- the `line_endings` value, the newline still with its BOM, the encoded data -/
def pick (env : Env) (cfg : Config) (eff : Option Name) : Arg → Option Text → E (Text × Bytes × Bytes)
  | .str t, none => do
    let nl ← encodeWith env eff (guessText t).2
    let d ← encodeWith env eff t
    pure ((if (guessText t).1 then Text.ofAscii b!"dos" else Text.ofAscii b!"unix"), nl, d)
  | .str t, some le => do
    let nl ← encodeWith env eff (nlText (le == Text.ofAscii b!"dos"))
    let d ← encodeWith env eff t
    pure (le, nl, d)
  | .bytes b, none => do
    let unix ← liftEnv (stripBom env cfg (← liftEnv (env.encode (nlEnc eff) [10])) (some (nlEnc eff)))
    let dos ← liftEnv (stripBom env cfg (← liftEnv (env.encode (nlEnc eff) [13, 10])) (some (nlEnc eff)))
    let isDos := match findSub unix b with
      | some i => endsWith (b.take (i + unix.length)) dos
      | none => false
    pure ((if isDos then Text.ofAscii b!"dos" else Text.ofAscii b!"unix"), (if isDos then dos else unix), b)
  | .bytes b, some le => do
    let nl ← liftEnv (env.encode (nlEnc eff) (nlText (le == Text.ofAscii b!"dos")))
    pure (le, nl, b)
  | _, _ => throw .otherError

/-- the end of `_prepare_content`: append the newline when missing, then indent -/
def prepFinish (indent : Option Int) (newline data : Bytes) : E Bytes :=
  let data := if endsWith data newline then data else data ++ newline
  match indent with
  | some n =>
    if n = 0 then pure data
    else
      if newline.isEmpty then throw .otherError
      else
        let ind := List.replicate n.toNat (32 : UInt8)
        pure ((splitLines data newline true).map (ind ++ ·)).flatten
  | none => pure data

theorem prepareContent_shape (env : Env) (cfg : Config) (st : St) (content : Arg) (indent : Option Int)
    (le : Option Text) (enc : Option Name) (inherit : Bool) :
    prepareContent env cfg st content indent le enc inherit =
      (do checkContent content
          checkLe le
          let r ← pick env cfg (effEncoding st enc inherit) content le
          let nl ← liftEnv (stripBom env cfg r.2.1 (effEncoding st enc inherit))
          let d ← prepFinish indent nl r.2.2
          pure (d, r.1)) := by
  rcases content with (_ | ⟨a, t⟩) | (_ | ⟨a, b⟩) | j | _
  -- an empty or ill-typed content: both sides throw at once
  case str.nil | bytes.nil | dict | other => rfl
  -- otherwise both sides run the same stages, whatever the shapes of `le` and `indent`
  all_goals
    cases le <;> cases indent <;>
      simp only [prepareContent, checkContent, checkLe, pick, prepFinish, encodeWith, effEncoding, nlEnc,
        bind_assoc, pure_bind, Except.ite_bind] <;> rfl

theorem prepare_str_ne {env : Env} {cfg : Config} {st : St} {d : Text} {indent : Option Int} {le : Option Text}
    {enc : Option Name} {inh : Bool} {r : Bytes × Text}
    (h : prepareContent env cfg st (.str d) indent le enc inh = .ok r) : d ≠ [] := by
  rw [prepareContent_shape] at h
  obtain ⟨_, hc, -⟩ := Except.bind_ok h
  rintro rfl
  cases hc

theorem prepare_bytes_ne {env : Env} {cfg : Config} {st : St} {d : Bytes} {indent : Option Int} {le : Option Text}
    {enc : Option Name} {inh : Bool} {r : Bytes × Text}
    (h : prepareContent env cfg st (.bytes d) indent le enc inh = .ok r) : d ≠ [] := by
  rw [prepareContent_shape] at h
  obtain ⟨_, hc, -⟩ := Except.bind_ok h
  rintro rfl
  cases hc

end Diffx.Writer
