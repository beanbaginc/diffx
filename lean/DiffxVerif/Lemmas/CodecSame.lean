import DiffxVerif.Lemmas.Codec
import DiffxVerif.Lemmas.ReadContent
/-!
# Spelling independence of the stages of `_read_content` that see the codec name

Two names that the environment does not distinguish (`SameCodec`) give the same newline and the same decoding; the
codec name enters `Reader.readContent` at these two stages only (`C15_read_spelling`).  No such statement holds when
the lookup fails (`hok` of `Lemmas/Codec.lean`).
-/
namespace Diffx
open Diffx.Reader

theorem rcNewline_same {env : Env} (cfg : Config) {n₁ n₂ : Name} (h : SameCodec env n₁ n₂)
    (hok : ∃ c, env.canon n₁ = .ok c) (ln : Nat) (content : Bytes) (le : Option OptVal) :
    rcNewline env cfg ln content (some n₁) le = rcNewline env cfg ln content (some n₂) le := by
  unfold rcNewline
  simp only [newlineFor_same cfg ln _ h hok, guess_same cfg ln _ h hok]

theorem rcDecode_same {env : Env} {n₁ n₂ : Name} (h : SameCodec env n₁ n₂) (ln : Nat) (kb : Bool)
    (content newline : Bytes) :
    rcDecode env ln (some n₁) kb content newline = rcDecode env ln (some n₂) kb content newline := by
  have h2 : env.decode n₁ = env.decode n₂ := funext h.2.2
  unfold rcDecode
  cases kb
  · simp only [h2]
  · rfl

end Diffx
