import DiffxVerif.Lemmas.ReaderStep
/-!
# Blank lines, the main header's version, the content of a record

Whitespace-only lines in front of a header (`BlankLines`: skipped), the `version` of the main header
(`step_main`), and what the record of a preamble or diff section holds (`sectionContent`): the
vocabulary that the statements of C03 about one iteration and those about whole files share.
-/

namespace Diffx.Reader
open Diffx Diffx.Header

/-- `blank` is a concatenation of zero or more lines, each terminated by LF and
each consisting of whitespace only -/
def BlankLines (blank : Bytes) : Prop :=
  ∃ ls : List Bytes, blank = (ls.map (· ++ [10])).flatten ∧
    ∀ l ∈ ls, (∀ b ∈ l, isWs b = true) ∧ (10 : UInt8) ∉ l

theorem nextLine_skip_blank {chunk : Nat} (hc : 0 < chunk) {blank rest : Bytes} {f₁ f₂ : Nat}
    (hb : BlankLines blank) (h₁ : (blank ++ rest).length < f₁) (h₂ : rest.length < f₂) :
    nextLine chunk f₁ (blank ++ rest) = nextLine chunk f₂ rest := by
  obtain ⟨ls, rfl, hls⟩ := hb
  induction ls generalizing f₁ with
  | nil => exact nextLine_fuel chunk h₁ (by simpa using h₂)
  | cons l ls ih =>
    cases f₁ with
    | zero => omega
    | succ f₁ =>
      have e : (List.map (· ++ [10]) (l :: ls)).flatten ++ rest =
          l ++ [10] ++ ((List.map (· ++ [10]) ls).flatten ++ rest) := by simp
      rw [e] at h₁ ⊢
      rw [nextLine_blank_line hc _ f₁ (hls l (by simp)).1 (hls l (by simp)).2]
      apply ih (fun l' hl' => hls l' (List.mem_cons_of_mem _ hl'))
      simp only [List.length_append, List.length_cons, List.length_nil] at h₁ ⊢
      omega

theorem supportedVersions_contains_iff (v : Bytes) : supportedVersions.contains v = true ↔ v = b!"1.0" := by
  simp [supportedVersions]

theorem step_main (env : Env) (cfg : Config) {chunk : Nat} {l : Loop} {hdr : Hdr} {ln : Nat} {st : St}
    (hh : readHeader chunk l.valid l.st = .ok (some (hdr, ln, st))) (hs : hdr.sec = SecId.main) :
    (hdr.opts.get b!"version" = some (.str b!"1.0") →
      ∃ l', stepSection env cfg chunk l = .ok (some (⟨hdr.sec, ln, hdr.opts, .container⟩, l'))) ∧
    (hdr.opts.get b!"version" ≠ some (.str b!"1.0") →
      stepSection env cfg chunk l = .error (.parseError ln none)) := by
  have hc : contentSections.contains hdr.sec = false := by rw [hs]; decide
  rw [stepSection_of_header hh]
  constructor
  · intro hv
    exact ⟨_, stepHdr_container hc (by unfold verCheck; rw [if_pos hs, hv]; rfl)⟩
  · intro hv
    have : verCheck hdr.sec hdr.opts ln = .error (.parseError ln none) := by
      unfold verCheck
      rw [if_pos hs]
      rcases hg : hdr.opts.get b!"version" with _ | (n | v)
      · rfl
      · rfl
      · have hne : v ≠ b!"1.0" := by
          intro e; rw [hg, e] at hv; exact hv rfl
        have : supportedVersions.contains v = false := by
          rw [← Bool.not_eq_true, supportedVersions_contains_iff]; exact hne
        simp only [this, Bool.false_eq_true, if_false]
    simp only [stepHdr, hc, this, Bool.false_eq_true, if_false]
    rfl

/-- the content of the record of a preamble or diff section, from what
`_read_content` returned: decoded text or bytes for a preamble, bytes for a diff -/
def sectionContent (sec : SecId) (got : Got) : Content :=
  match got with
  | .text t => .text t
  | .bytes b => if sec = SecId.fileDiff then .diff b else .textBytes b

end Diffx.Reader
