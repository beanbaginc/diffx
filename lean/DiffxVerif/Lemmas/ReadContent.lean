import DiffxVerif.Model.Reader
import DiffxVerif.Lemmas.Except
import DiffxVerif.Lemmas.Basic
/-!
# `_read_content` in normal form

`Reader.readContent` is one `do` block with a join point after every check.  Here it is brought
into one shape from which everything else about it is proved:

* the stages `rcEnc`, `rcNewline`, `rcInd`, `rcDecode` are functions of their own inputs, and
  `rcCore` is their bind chain: the result and the number of lines, computed from the bytes taken
  from the stream; the unread rest does not occur in it;
* `readContent_core`: `readContent` is `rcCore` on `rest.take n`, with `rest.drop n` copied into the
  new state;
* an error of `liftEnv` or `newlineFor` is the parse error at the current line or a question the
  environment left unanswered (`liftEnv_error`, `newlineFor_error`, `EnvMissing`).

`readContent_core` is proved from the `do` block itself: its join points are taken from the innermost
outwards (`extract_lets`, the fact about one continuation, `clear_value`), each against its piece of
the chain, so that no continuation is ever duplicated.
-/
namespace Diffx.Reader
open Diffx Diffx.Header

theorem map_id' {ε α} (h : α → α) (x : Except ε α) (hh : ∀ a, h a = a) : Except.map h x = x := by
  cases x with
  | error e => rfl
  | ok a => exact congrArg Except.ok (hh a)

/-- `if bad: raise DiffXParseError(…, linenum=self._linenum)`: a check with no other outcome -/
def guardPE (ln : Nat) (bad : Bool) : M Unit := if bad then .error (.parseError ln none) else .ok ()

/-- `encoding is not None and not isinstance(encoding, str)` -/
def rcEnc (ln : Nat) : Option OptVal → M (Option Name)
  | none => .ok none
  | some (.str s) => .ok (some (Name.ofBytes s))
  | some (.int _) => .error (.parseError ln none)

/-- the newline of the section: declared (`line_endings`) or guessed -/
def rcNewline (env : Env) (cfg : Config) (ln : Nat) (content : Bytes) (enc : Option Name) :
    Option OptVal → M Bytes
  | some (.str s) =>
    if s = b!"unix" then newlineFor env cfg ln false enc
    else if s = b!"dos" then newlineFor env cfg ln true enc
    else .error (.parseError ln none)
  | some (.int 0) | none => guessLineEndings env cfg ln content enc >>= fun p => .ok p.2
  | some (.int _) => .error (.parseError ln none)

/-- the `indent` option: absent (nothing to strip) or a non-negative `int` -/
def rcInd (ln : Nat) : Option OptVal → M Nat
  | none => .ok 0
  | some (.int n) => if n < 0 then .error (.parseError ln none) else .ok n.toNat
  | some (.str _) => .error (.parseError ln none)

/-- the last stage: decode (or keep the bytes) and check the final newline -/
def rcDecode (env : Env) (ln : Nat) (enc : Option Name) (kb : Bool) (content newline : Bytes) : M Got :=
  match enc, kb with
  | some e, false =>
    liftEnv ln (env.decode e content) >>= fun t =>
    liftEnv ln (env.decode e newline) >>= fun nlT =>
    if !endsWith t nlT then .error (.parseError ln none) else .ok (.text t)
  | _, _ => if !endsWith content newline then .error (.parseError ln none) else .ok (.bytes content)

/-- `_read_content` from the point where the newline is known -/
def rcTail (env : Env) (ln : Nat) (enc : Option Name) (kb : Bool) (content : Bytes) (indent : Option OptVal)
    (nl : Bytes) : M (Got × Nat) :=
  (if nl.isEmpty then .error .assertion else .ok ()) >>= fun _ =>
  guardPE ln (!endsWith content nl) >>= fun _ =>
  rcInd ln indent >>= fun ind =>
  rcDecode env ln enc kb
    (if ind = 0 then content else ((splitLines content nl true).map (stripIndent ind)).flatten) nl >>= fun got =>
  .ok (got, (splitLines content nl true).length)

/-- `_read_content` as a function of the bytes taken from the stream (`content`) and the outcome
of the model's length check (`short`): the result and the number of lines -/
def rcCore (env : Env) (cfg : Config) (ln : Nat) (content : Bytes) (short : Bool) (length : Nat)
    (encoding indent lineEndings : Option OptVal) (kb : Bool) : M (Got × Nat) :=
  rcEnc ln encoding >>= fun enc =>
  guardPE ln (decide (length > maxRead) || content.isEmpty || short) >>= fun _ =>
  rcNewline env cfg ln content enc lineEndings >>= fun nl =>
  rcTail env ln enc kb content indent nl

theorem readContent_core (env : Env) (cfg : Config) (st : St) (n : Nat) (enc ind le : Option OptVal) (kb : Bool) :
    readContent env cfg st n enc ind le kb =
      (rcCore env cfg st.linenum (st.rest.take n) (cfg.strictLength && decide ((st.rest.take n).length < n))
        n enc ind le kb).map (fun p => (p.1, ⟨st.rest.drop n, st.linenum + p.2, st.fileCrlf⟩)) := by
  unfold readContent
  -- `jp1 enc`: the block from the `length > maxRead` check on, once the encoding is known
  extract_lets ln perr content rest leGiven jp1
  -- the join points of the block from the innermost outwards, each against its piece of the chain.
  -- `F` stays opaque on the way: `Except.map F` is only moved across binds and errors, until a value
  -- reaches it at the leaves (`hInd`, which puts its body back)
  generalize hF : (fun p : Got × Nat => (p.1, (⟨rest, ln + p.2, st.fileCrlf⟩ : St))) = F
  have h1 : ∀ e, jp1 e =
      (guardPE ln (decide (n > maxRead) || content.isEmpty ||
          (cfg.strictLength && decide (content.length < n))) >>= fun _ =>
        rcNewline env cfg ln content e le >>= rcTail env ln e kb content ind).map F := by
    intro e
    simp -zeta only [jp1]
    -- `jpNl nl`: the block from `newline.isEmpty` on; `kLe`, `kStrict`, `kEmpty` (of `()`): the block from
    -- the `match leGiven`, from the model's length check, from the `content.isEmpty` check on
    extract_lets jpNl kLe kStrict kEmpty
    have hNl : ∀ nl, jpNl nl = (rcTail env ln e kb content ind nl).map F := by
      intro nl
      simp -zeta only [jpNl]
      -- `jpInd ind`: the last `match enc, keepBytes`; `kInd`, `kEnds` (of `()`): the block from the
      -- `match indent`, from the `endsWith content newline` check on
      extract_lets lines jpInd kInd kEnds
      have hInd : ∀ i, jpInd i =
          (rcDecode env ln e kb (if i = 0 then content else (lines.map (stripIndent i)).flatten) nl >>=
            fun got => .ok (got, lines.length)).map F := by
        intro i
        subst hF
        simp only [jpInd, rcDecode]
        generalize (if i = 0 then content else (lines.map (stripIndent i)).flatten) = c
        rcases e with _ | e
        · cases endsWith c nl <;> rfl
        · cases kb
          · dsimp only
            rcases liftEnv ln (env.decode e c) with o | t
            · rfl
            · rcases liftEnv ln (env.decode e nl) with o | nlT
              · rfl
              · simp only [Except.ok_bind]
                cases endsWith t nlT <;> rfl
          · cases endsWith c nl <;> rfl
      clear_value jpInd
      have hkInd : ∀ u, kInd u = (rcInd ln ind >>= fun i =>
          rcDecode env ln e kb (if i = 0 then content else (lines.map (stripIndent i)).flatten) nl >>=
            fun got => .ok (got, lines.length)).map F := by
        intro u
        simp -zeta only [kInd]
        rcases ind with _ | (k | s)
        · exact hInd 0
        · simp only [rcInd]
          by_cases hk : k < 0
          · simp only [hk, if_true]; rfl
          · simp only [hk, if_false]; exact hInd _
        · rfl
      clear_value kInd
      simp only [rcTail, guardPE]
      cases nl.isEmpty
      · simp -zeta only [kEnds, Bool.false_eq_true, if_false, Except.ok_bind]
        cases endsWith content nl
        · rfl
        · exact hkInd ()
      · rfl
    clear_value jpNl
    have hkLe : ∀ u, kLe u = (rcNewline env cfg ln content e le >>= rcTail env ln e kb content ind).map F := by
      intro u
      have key : ∀ x : M Bytes, x >>= jpNl = (x >>= rcTail env ln e kb content ind).map F := by
        rintro (o | nl)
        · rfl
        · exact hNl nl
      have hg : (guessLineEndings env cfg ln content e >>= fun x => jpNl x.2) =
          ((guessLineEndings env cfg ln content e >>= fun p => .ok p.2) >>=
            rcTail env ln e kb content ind).map F := by
        rcases guessLineEndings env cfg ln content e with o | p
        · rfl
        · exact hNl _
      simp -zeta only [kLe, leGiven]
      rcases le with _ | ((_ | k) | k) | s
      · exact hg
      · exact hg
      · rfl
      · rfl
      · simp only [rcNewline]
        by_cases hs : s = b!"unix"
        · simp only [hs, if_true]; exact key _
        by_cases hs' : s = b!"dos"
        · simp only [hs', if_true]; exact key _
        · simp only [hs, hs', if_false]; rfl
    clear_value kLe
    simp only [guardPE]
    by_cases hm : n > maxRead
    · simp only [hm, if_true]; rfl
    simp -zeta only [hm, if_false, kEmpty, decide_false, Bool.false_or]
    cases content.isEmpty
    · simp -zeta only [Bool.false_eq_true, if_false, kStrict, Bool.false_or]
      cases cfg.strictLength && decide (content.length < n)
      · exact hkLe ()
      · rfl
    · rfl
  clear_value jp1
  unfold rcCore
  rcases enc with _ | (k | s)
  · exact h1 none
  · rfl
  · exact h1 _

theorem rcCore_strict (env : Env) (cfg : Config) (b : Bool) :
    rcCore env { cfg with strictLength := b } = rcCore env cfg := rfl

theorem rcCore_short (env : Env) (cfg : Config) (ln : Nat) (content : Bytes) (length : Nat)
    (encoding indent le : Option OptVal) (kb : Bool) :
    rcCore env cfg ln content true length encoding indent le kb = .error (.parseError ln none) := by
  unfold rcCore
  rcases encoding with _ | (n | s) <;> simp only [rcEnc, Except.ok_bind, Except.error_bind, Bool.or_true, guardPE, if_true]

theorem guess_eq (env : Env) (cfg : Config) (ln : Nat) (content : Bytes) (enc : Option Name) :
    ∃ dos, (guessLineEndings env cfg ln content enc >>= fun p => (.ok p.2 : M Bytes)) =
      newlineFor env cfg ln dos enc := by
  unfold guessLineEndings
  cases hu : newlineFor env cfg ln false enc with
  | error o => exact ⟨false, by rw [hu]; rfl⟩
  | ok u =>
    cases hd : newlineFor env cfg ln true enc with
    | error o => exact ⟨true, by rw [hd]; rfl⟩
    | ok d =>
      simp only [Except.ok_bind]
      cases findSub u content with
      | none => exact ⟨false, by rw [hu]; rfl⟩
      | some i =>
        dsimp only
        by_cases hc : endsWith (content.take (i + u.length)) d = true
        · rw [if_pos hc]; exact ⟨true, by rw [hd]; rfl⟩
        · rw [if_neg hc]; exact ⟨false, by rw [hu]; rfl⟩

theorem guardPE_ok {ln : Nat} {b : Bool} {u : Unit} (h : guardPE ln b = .ok u) : b = false := by
  cases b
  · rfl
  · cases h

theorem guardPE_error {ln : Nat} {b : Bool} {o : Outcome} (h : guardPE ln b = .error o) :
    o = .parseError ln none := by
  cases b <;> cases h
  rfl

theorem rcEnc_error {ln : Nat} {x : Option OptVal} {o : Outcome} (h : rcEnc ln x = .error o) :
    o = .parseError ln none := by
  rcases x with _ | (n | s) <;> cases h
  rfl

theorem rcInd_error {ln : Nat} {x : Option OptVal} {o : Outcome} (h : rcInd ln x = .error o) :
    o = .parseError ln none := by
  rcases x with _ | (n | s)
  · cases h
  · simp only [rcInd] at h
    split at h <;> cases h
    rfl
  · cases h; rfl

theorem rcNewline_cases (env : Env) (cfg : Config) (ln : Nat) (content : Bytes) (enc : Option Name)
    (le : Option OptVal) :
    rcNewline env cfg ln content enc le = .error (.parseError ln none) ∨
      ∃ dos, rcNewline env cfg ln content enc le = newlineFor env cfg ln dos enc := by
  rcases le with _ | ((_ | k) | k) | s
  · exact .inr (guess_eq env cfg ln content enc)
  · exact .inr (guess_eq env cfg ln content enc)
  · exact .inl rfl
  · exact .inl rfl
  · simp only [rcNewline]
    by_cases hs : s = b!"unix"
    · rw [if_pos hs]; exact .inr ⟨false, rfl⟩
    · rw [if_neg hs]
      by_cases hs' : s = b!"dos"
      · rw [if_pos hs']; exact .inr ⟨true, rfl⟩
      · rw [if_neg hs']; exact .inl rfl

theorem rcNewline_ok {env : Env} {cfg : Config} {ln : Nat} {content : Bytes} {enc : Option Name}
    {le : Option OptVal} {nl : Bytes} (h : rcNewline env cfg ln content enc le = .ok nl) :
    ∃ dos, newlineFor env cfg ln dos enc = .ok nl := by
  rcases rcNewline_cases env cfg ln content enc le with h' | ⟨dos, h'⟩
  · rw [h] at h'; cases h'
  · exact ⟨dos, h' ▸ h⟩

theorem rcNewline_error {env : Env} {cfg : Config} {ln : Nat} {content : Bytes} {enc : Option Name}
    {le : Option OptVal} {o : Outcome} (h : rcNewline env cfg ln content enc le = .error o) :
    o = .parseError ln none ∨ ∃ dos, newlineFor env cfg ln dos enc = .error o := by
  rcases rcNewline_cases env cfg ln content enc le with h' | ⟨dos, h'⟩
  · exact .inl (Except.error.inj (h.symm.trans h'))
  · exact .inr ⟨dos, h' ▸ h⟩

theorem rcDecode_error {env : Env} {ln : Nat} {enc : Option Name} {kb : Bool} {c nl : Bytes} {o : Outcome}
    (h : rcDecode env ln enc kb c nl = .error o) :
    o = .parseError ln none ∨ ∃ e c, liftEnv ln (env.decode e c) = .error o := by
  unfold rcDecode at h
  split at h
  · rcases Except.bind_error h with h | ⟨t, -, h⟩
    · exact Or.inr ⟨_, _, h⟩
    · rcases Except.bind_error h with h | ⟨nlT, -, h⟩
      · exact Or.inr ⟨_, _, h⟩
      · split at h <;> cases h
        exact Or.inl rfl
  · split at h <;> cases h
    exact Or.inl rfl

theorem rcDecode_bytes {env : Env} {ln : Nat} {enc : Option Name} {kb : Bool} (c nl : Bytes)
    (h : enc = none ∨ kb = true) :
    rcDecode env ln enc kb c nl = if !endsWith c nl then .error (.parseError ln none) else .ok (.bytes c) := by
  rcases h with rfl | rfl
  · rfl
  · cases enc <;> rfl

theorem rcDecode_keep {env : Env} {ln : Nat} {enc : Option Name} {c nl : Bytes} {got : Got}
    (h : rcDecode env ln enc true c nl = .ok got) : ∃ b, got = .bytes b := by
  rw [rcDecode_bytes c nl (Or.inr rfl)] at h
  split at h <;> cases h
  exact ⟨_, rfl⟩

theorem rcDecode_text {env : Env} (ln : Nat) {e : Name} {c nl : Bytes} {t nlT : Text}
    (hdec : env.decode e c = .ok t) (hdecNl : env.decode e nl = .ok nlT) (hend : endsWith t nlT = true) :
    rcDecode env ln (some e) false c nl = .ok (.text t) := by
  simp only [rcDecode, hdec, hdecNl, liftEnv, Except.ok_bind, hend, Bool.not_true, Bool.false_eq_true, if_false]

theorem newlineFor_of {env : Env} {cfg : Config} (ln : Nat) {dos : Bool} {enc : Option Name} {raw nl : Bytes}
    (h1 : env.encode (enc.getD (Text.ofAscii b!"ascii")) (nlText dos) = .ok raw)
    (h2 : stripBom env cfg raw (some (enc.getD (Text.ofAscii b!"ascii"))) = .ok nl) :
    newlineFor env cfg ln dos enc = .ok nl := by
  unfold newlineFor
  simp only [h1, h2, liftEnv, Except.ok_bind]

theorem liftEnv_ok {α} {ln : Nat} {x : EnvR α} {a : α} (h : liftEnv ln x = .ok a) : x = .ok a := by
  cases x <;> simp [liftEnv] at h; rw [h]

theorem liftEnv_error {α} {ln : Nat} {x : EnvR α} {o : Outcome} (h : liftEnv ln x = .error o) :
    o = .parseError ln none ∨ ∃ q, o = .needEnv q ∧ x = .missing q := by
  cases x with
  | ok a => simp [liftEnv] at h
  | err => simp [liftEnv] at h; exact Or.inl h.symm
  | missing q => simp [liftEnv] at h; exact Or.inr ⟨q, h.symm, rfl⟩

theorem stripBom_missing {env : Env} {cfg : Config} {raw : Bytes} {e : Name} {q : String}
    (h : stripBom env cfg raw (some e) = .missing q) : env.canon e = .missing q := by
  unfold stripBom at h
  simp only at h
  cases hc : env.canon e with
  | ok c => rw [hc] at h; cases h
  | err => rw [hc] at h; cases h
  | missing q' => rw [hc] at h; cases h; rfl

theorem newlineFor_ok {env : Env} {cfg : Config} {ln : Nat} {dos : Bool} {enc : Option Name} {b : Bytes}
    (h : newlineFor env cfg ln dos enc = .ok b) :
    ∃ e raw, env.encode e (nlText dos) = .ok raw ∧ stripBom env cfg raw (some e) = .ok b := by
  unfold newlineFor at h
  obtain ⟨raw, hraw, h⟩ := Except.bind_ok h
  exact ⟨_, raw, liftEnv_ok hraw, liftEnv_ok h⟩

/-- the environment leaves some question `q` of the reader unanswered: what the artefact `needEnv q` reports -/
def EnvMissing (env : Env) (q : String) : Prop :=
  (∃ n, env.canon n = .missing q) ∨ (∃ n t, env.encode n t = .missing q) ∨
  (∃ n b, env.decode n b = .missing q) ∨ (∃ t, env.loadsText t = .missing q) ∨
  (∃ b, env.loadsBytes b = .missing q)

theorem newlineFor_error {env : Env} {cfg : Config} {ln : Nat} {dos : Bool} {enc : Option Name} {o : Outcome}
    (h : newlineFor env cfg ln dos enc = .error o) :
    o = .parseError ln none ∨ ∃ q, o = .needEnv q ∧ EnvMissing env q := by
  unfold newlineFor at h
  rcases Except.bind_error h with he | ⟨raw, -, h⟩
  · rcases liftEnv_error he with h | ⟨q, h1, h2⟩
    · exact Or.inl h
    · exact Or.inr ⟨q, h1, Or.inr (Or.inl ⟨_, _, h2⟩)⟩
  · rcases liftEnv_error h with h | ⟨q, h1, h2⟩
    · exact Or.inl h
    · exact Or.inr ⟨q, h1, Or.inl ⟨_, stripBom_missing h2⟩⟩

theorem rcEnc_str (ln : Nat) (e : Option Bytes) : rcEnc ln (e.map OptVal.str) = .ok (e.map Name.ofBytes) := by
  cases e <;> rfl

theorem rcNewline_declared (env : Env) (cfg : Config) (ln : Nat) (content : Bytes) (enc : Option Name) (dos : Bool) :
    rcNewline env cfg ln content enc (some (.str (if dos then b!"dos" else b!"unix"))) =
      newlineFor env cfg ln dos enc := by
  cases dos <;> rfl

theorem rcNewline_guess (env : Env) (cfg : Config) (ln : Nat) (content : Bytes) (enc : Option Name)
    (p : Bool × Bytes) (h : guessLineEndings env cfg ln content enc = .ok p) :
    rcNewline env cfg ln content enc none = .ok p.2 := by
  simp only [rcNewline, h, Except.ok_bind]

/-- what an accepted section satisfies: `enc`, `nl`, `ind` are the results of its stages -/
structure RcAccepted (env : Env) (cfg : Config) (ln : Nat) (content : Bytes) (length : Nat)
    (encoding indent le : Option OptVal) (kb : Bool) (got : Got) (k : Nat)
    (enc : Option Name) (nl : Bytes) (ind : Nat) : Prop where
  enc_ok : rcEnc ln encoding = .ok enc
  length_le : length ≤ maxRead
  content_ne : content ≠ []
  newline : rcNewline env cfg ln content enc le = .ok nl
  nl_ne : nl ≠ []
  ends : endsWith content nl = true
  ind_ok : rcInd ln indent = .ok ind
  decoded : rcDecode env ln enc kb
    (if ind = 0 then content else ((splitLines content nl true).map (stripIndent ind)).flatten) nl = .ok got
  lines : k = (splitLines content nl true).length

theorem rcCore_ok {env : Env} {cfg : Config} {ln : Nat} {content : Bytes} {short : Bool} {length : Nat}
    {encoding indent le : Option OptVal} {kb : Bool} {got : Got} {k : Nat}
    (h : rcCore env cfg ln content short length encoding indent le kb = .ok (got, k)) :
    short = false ∧ ∃ enc nl ind, RcAccepted env cfg ln content length encoding indent le kb got k enc nl ind := by
  unfold rcCore at h
  obtain ⟨enc, h1, h⟩ := Except.bind_ok h
  obtain ⟨_, h2, h⟩ := Except.bind_ok h
  obtain ⟨nl, h3, h⟩ := Except.bind_ok h
  unfold rcTail at h
  obtain ⟨_, h4, h⟩ := Except.bind_ok h
  obtain ⟨_, h5, h⟩ := Except.bind_ok h
  obtain ⟨ind, h6, h⟩ := Except.bind_ok h
  obtain ⟨g, h7, h⟩ := Except.bind_ok h
  cases h
  have h2 := guardPE_ok h2
  simp only [Bool.or_eq_false_iff, decide_eq_false_iff_not, Nat.not_lt] at h2
  refine ⟨h2.2, enc, nl, ind,
    { enc_ok := h1, length_le := h2.1.1, content_ne := by simpa using h2.1.2, newline := h3, nl_ne := ?_,
      ends := by simpa using guardPE_ok h5, ind_ok := h6, decoded := h7, lines := rfl }⟩
  rintro rfl
  cases h4

theorem rcCore_eval {env : Env} {cfg : Config} {ln : Nat} {content : Bytes} {length : Nat}
    {encoding indent le : Option OptVal} (kb : Bool) {enc : Option Name} {nl : Bytes} {ind : Nat}
    (he : rcEnc ln encoding = .ok enc) (hl : length ≤ maxRead) (hc : content ≠ [])
    (hnl : rcNewline env cfg ln content enc le = .ok nl) (hne : nl ≠ []) (hends : endsWith content nl = true)
    (hind : rcInd ln indent = .ok ind) :
    rcCore env cfg ln content false length encoding indent le kb =
      rcDecode env ln enc kb
        (if ind = 0 then content else ((splitLines content nl true).map (stripIndent ind)).flatten) nl >>=
        fun got => .ok (got, (splitLines content nl true).length) := by
  have h2 : (decide (length > maxRead) || content.isEmpty || false) = false := by
    simp only [Bool.or_false, Bool.or_eq_false_iff, decide_eq_false_iff_not, Nat.not_lt, List.isEmpty_eq_false_iff]
    exact ⟨hl, hc⟩
  have h4 : nl.isEmpty = false := List.isEmpty_eq_false_iff.mpr hne
  unfold rcCore rcTail
  rw [he, Except.ok_bind, h2, hnl, Except.ok_bind, h4, hends, hind]
  rfl

theorem readContent_stages {env : Env} {cfg : Config} {data : Bytes} (rest : Bytes) {ln : Nat} (f : Option Bool)
    {encoding indent le : Option OptVal} (kb : Bool) {enc : Option Name} {nl : Bytes} {ind : Nat}
    (he : rcEnc ln encoding = .ok enc) (hl : data.length ≤ maxRead)
    (hnl : rcNewline env cfg ln data enc le = .ok nl) (hne : nl ≠ []) (hends : nl <:+ data)
    (hind : rcInd ln indent = .ok ind) :
    readContent env cfg ⟨data ++ rest, ln, f⟩ data.length encoding indent le kb =
      rcDecode env ln enc kb
        (if ind = 0 then data else ((splitLines data nl true).map (stripIndent ind)).flatten) nl >>=
        fun got => .ok (got, ⟨rest, ln + (splitLines data nl true).length, f⟩) := by
  have hc : data ≠ [] := fun h0 => hne (List.suffix_nil.mp (h0 ▸ hends))
  rw [readContent_core]
  simp only [List.take_left', List.drop_left', Nat.lt_irrefl, decide_false, Bool.and_false]
  rw [rcCore_eval kb he hl hc hnl hne (endsWith_iff_suffix.2 hends) hind, Except.map_bind]
  rfl

theorem readContent_rest {env : Env} {cfg : Config} {st : St} {n : Nat} {enc ind le : Option OptVal} {kb : Bool}
    {got : Got} {st' : St} (h : readContent env cfg st n enc ind le kb = .ok (got, st')) :
    st'.rest = st.rest.drop n := by
  rw [readContent_core] at h
  obtain ⟨p, -, hp⟩ := Except.map_ok h
  cases hp
  rfl

theorem readContent_keep_bytes {env : Env} {cfg : Config} {st : St} {n : Nat} {enc ind le : Option OptVal}
    {got : Got} {st' : St} (h : readContent env cfg st n enc ind le true = .ok (got, st')) :
    ∃ b, got = .bytes b := by
  rw [readContent_core] at h
  obtain ⟨⟨g, k⟩, hc, he⟩ := Except.map_ok h
  cases he
  obtain ⟨-, e, nl, i, ha⟩ := rcCore_ok hc
  exact rcDecode_keep ha.decoded

/-! Every check in front of the newline raises the same parse error at the same line, so a parse error
of the stages after them is the result whatever the length checks say. -/

theorem rcCore_parseError {env : Env} {cfg : Config} {ln : Nat} {content : Bytes} (short : Bool) (length : Nat)
    {encoding indent le : Option OptVal} {kb : Bool} {enc : Option Name}
    (he : rcEnc ln encoding = .ok enc)
    (h : rcNewline env cfg ln content enc le >>= rcTail env ln enc kb content indent =
      .error (.parseError ln none)) :
    rcCore env cfg ln content short length encoding indent le kb = .error (.parseError ln none) := by
  unfold rcCore
  rw [he, Except.ok_bind]
  cases decide (length > maxRead) || content.isEmpty || short
  · exact h
  · rfl

end Diffx.Reader
