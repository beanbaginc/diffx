import DiffxVerif.Lemmas.RunHeader
import DiffxVerif.Lemmas.Order
import DiffxVerif.Lemmas.ReaderStep
import DiffxVerif.Lemmas.Encoding
/-!
# The whole-sequence round trip: writer program → bytes → reader records

The reader is run on what the writer wrote, section by section as the calls wrote them.  What is assumed of a
program is collected call by call, each in the writer state the call is made in (`CallLaws`, along the run
`ProgramLawsFrom`): well-formed encoding names, the codec laws `TextLaws` / `DiffLaws`, the JSON laws; no function
of the reader loop is mentioned.  The records to be read (`expectedRecords`) are defined by recursion over the
calls from the data of those laws.  `accepted` inverts an accepted call once: it appended a header rendered from
the call's option list and the content bytes the laws speak of (`callSec`).  `Related` is the simulation relation
between writer state and reader loop state; `sim_container` and `sim_content` are the cases of its step, the
second for all three content calls, with what is particular to the kind as hypotheses.  The step `C01_sim_step`,
the induction `C01_sim_run` and `C01_run` about `Writer.run` and `Reader.readAll` stand in `Properties/C01Run.lean`.
-/
namespace Diffx.RunRT
open Diffx Diffx.Writer Diffx.Header

/-- a codec name that survives a header: ASCII, made of option-value characters,
and not something `int()` accepts -/
structure NameOk (n : Name) : Prop where
  ascii : n = Text.ofAscii n.toAscii
  val : Header.valOk n.toAscii = true
  str : Header.convert n.toAscii = .str n.toAscii

/-- an optional `encoding=` argument -/
def EncOk (e : Option Name) : Prop := ∀ n, e = some n → NameOk n

/-- the reader's view of an encoding the writer holds -/
def encOpt (e : Option Name) : Option OptVal := e.map (fun n => OptVal.str n.toAscii)

theorem NameOk.truthy {n : Name} (h : NameOk n) : truthy (some n) = true := by
  have := (valOk_facts h.val).1
  cases n with
  | nil => exact absurd rfl this
  | cons a r => rfl

/-- **`NameOk` is exactly "not refused by `_write_section_header`"** -/
theorem nameOk_iff_not_refused (n : Name) : NameOk n ↔ valueRefused (.str n) = false := by
  constructor
  · intro h
    have hv := (valOk_facts h.val).2
    have ha : isAsciiText n = true := by
      rw [h.ascii]
      apply isAsciiText_ofAscii
      intro x hx
      have := hv x hx
      revert this
      simp only [valChar, isAlpha, isDigit, Bool.or_eq_true, Bool.and_eq_true, decide_eq_true_eq,
        beq_iff_eq, UInt8.le_iff_toNat_le, UInt8.lt_iff_toNat_lt, ← UInt8.toNat_inj, UInt8.reduceToNat]
      intro h'
      omega
    unfold valueRefused
    simp [HVal.text, ha, h.val, h.str]
  · intro h
    obtain ⟨ha, hv, hc⟩ := valueRefused_str_false h
    exact ⟨ofAscii_toAscii_of_ascii n ha, hv, hc⟩

theorem encOk_of_accepted {env : Env} {cfg : Config} {st : St} {c : Call} (hok : (step env cfg st c).2 = .ok) :
    EncOk (callEncoding c) :=
  fun n hn => (nameOk_iff_not_refused n).2 (step_ok_enc hn hok)

/-- the option list `_new_content_section` hands to `_write_section_header` -/
def contentOpts (extra : List (Bytes × Option HVal)) (enc : Option Name) (indent : Option Int) (len : Nat)
    (writeLe : Bool) (le : Text) : List (Bytes × Option HVal) :=
  extra ++ [(b!"encoding", enc.map HVal.str), (b!"indent", indent.map HVal.int),
            (b!"length", some (HVal.int len))] ++
    (if writeLe then [(b!"line_endings", some (HVal.str le))] else [])

/-- the options a reader reports for a header rendered from `opts` -/
def recOpts (opts : List (Bytes × Option HVal)) : Opts := Spec.reported (C02.writtenPairs opts)

/-- `write_preamble(text, encoding, indent, line_endings, mimetype)` in writer state `st` -/
structure PreambleLaws (env : Env) (cfg : Config) (st : St) (t : Text) (enc : Option Name)
    (indent : Option Int) (le : Option Text) where
  encOk : EncOk enc
  indentOk : ∀ i, indent = some i → 0 ≤ i
  /-- the bytes and the `line_endings` value `_prepare_content` produces -/
  data : Bytes
  leOut : Text
  hprep : prepareContent env cfg st (.str t) indent le enc true = .ok (data, leOut)
  hlen : data.length ≤ Reader.maxRead
  text : TextLaws env cfg st t le enc leOut

/-- `write_meta(metadata, encoding)` in writer state `st` -/
structure MetaLaws (env : Env) (cfg : Config) (st : St) (j : Json) (enc : Option Name) where
  encOk : EncOk enc
  /-- `json.dumps` -/
  text : Text
  hdumps : env.dumps j = .ok text
  /-- the `line_endings` value `_prepare_content` returns; `write_meta` does not write it -/
  leOut : Text
  tl : TextLaws env cfg st text none enc leOut
  hlen : tl.plain.length ≤ Reader.maxRead
  /-- no `line_endings` option is written for metadata: the reader guesses the newline from
  the section's bytes, and finds the one the writer used -/
  hguess : ∀ ln, Reader.guessLineEndings env cfg ln tl.plain (some (Text.ofAscii tl.encName)) =
    .ok (tl.dos, tl.nl)
  /-- `json.loads` of the decoded text -/
  parsed : Json
  hloads : env.loadsText tl.decoded = .ok parsed
  hobj : parsed.isObj = true

/-- `write_diff(content, diff_type, encoding, line_endings)` in writer state `st` -/
structure DiffCallLaws (env : Env) (cfg : Config) (st : St) (b : Bytes) (enc : Option Name)
    (le : Option Text) where
  encOk : EncOk enc
  data : Bytes
  leOut : Text
  hprep : prepareContent env cfg st (.bytes b) none le enc false = .ok (data, leOut)
  hlen : data.length ≤ Reader.maxRead
  dl : DiffLaws env cfg st b le enc leOut

/-- the laws for one call made in writer state `st` (nothing for calls with arguments of the
wrong type: the writer rejects those) -/
def CallLaws (env : Env) (cfg : Config) (st : St) (c : Call) : Type :=
  match c with
  | .newChange enc => PLift (EncOk enc)
  | .newFile enc => PLift (EncOk enc)
  | .preamble text enc indent le _ =>
    (match text with
     | .str t => PreambleLaws env cfg st t enc indent le
     | _ => PUnit)
  | .metadata m enc _ =>
    (match m with
     | .dict j => MetaLaws env cfg st j enc
     | _ => PUnit)
  | .diff content _ enc le =>
    (match content with
     | .bytes b => DiffCallLaws env cfg st b enc le
     | _ => PUnit)

/-- the laws for the calls `cs` made from writer state `st` on -/
def ProgramLawsFrom (env : Env) (cfg : Config) : St → List Call → Type
  | _, [] => PUnit
  | st, c :: cs => CallLaws env cfg st c × ProgramLawsFrom env cfg (step env cfg st c).1 cs

/-- **the laws of a program** `DiffXWriter(fp, encoding=enc)` followed by `calls` -/
structure ProgramLaws (env : Env) (cfg : Config) (enc : Name) (calls : List Call) where
  encOk : NameOk enc
  calls : ProgramLawsFrom env cfg (init (some enc) (Text.ofAscii b!"1.0")).1 calls

/-- the record expected for one call made in writer state `st` when the reader's logical line
counter is `line`, and the number of logical lines of the section -/
def expectedOne (env : Env) (cfg : Config) (st : St) (line : Nat) (c : Call) (L : CallLaws env cfg st c) :
    Reader.Record × Nat :=
  match c, L with
  | .newChange enc, _ =>
    (⟨⟨1, .change⟩, line, recOpts [(b!"encoding", enc.map HVal.str)], .container⟩, 1)
  | .newFile enc, _ =>
    (⟨⟨2, .file⟩, line, recOpts [(b!"encoding", enc.map HVal.str)], .container⟩, 1)
  | .preamble (.str _) enc indent _ mime, L =>
    (⟨⟨st.level, .preamble⟩, line,
      recOpts (contentOpts [(b!"mimetype", mime.map HVal.str)] enc indent L.data.length true L.leOut),
      .text L.text.decoded⟩, 1 + L.text.lines)
  | .metadata (.dict _) enc fmt, L =>
    (⟨⟨st.level, .metadata⟩, line,
      recOpts (contentOpts [(b!"format", some (HVal.str fmt))] enc none L.tl.plain.length false L.leOut),
      .metadata L.parsed⟩, 1 + L.tl.lines)
  | .diff (.bytes _) dtype enc _, L =>
    (⟨⟨st.level, .diff⟩, line,
      recOpts (contentOpts [(b!"type", dtype.map HVal.str)] enc none L.data.length true L.leOut),
      .diff L.data⟩, 1 + (splitLines L.data L.dl.nl true).length)
  | _, _ => (default, 0)

/-- the records of the calls `cs`; each starts at the line the sections before it end at -/
def expectedFrom (env : Env) (cfg : Config) : (st : St) → Nat → (cs : List Call) →
    ProgramLawsFrom env cfg st cs → List Reader.Record
  | _, _, [], _ => []
  | st, line, c :: cs, (L, Ls) =>
    (expectedOne env cfg st line c L).1 ::
      expectedFrom env cfg (step env cfg st c).1 (line + (expectedOne env cfg st line c L).2) cs Ls

theorem expectedFrom_length (env : Env) (cfg : Config) : ∀ (cs : List Call) (st : St) (line : Nat)
    (Ls : ProgramLawsFrom env cfg st cs), (expectedFrom env cfg st line cs Ls).length = cs.length
  | [], _, _, _ => rfl
  | c :: cs, st, line, (L, Ls) => by
    simp only [expectedFrom, List.length_cons, expectedFrom_length env cfg cs]

theorem expectedOne_sec (env : Env) (cfg : Config) (st : St) (line : Nat) (c : Call) (L : CallLaws env cfg st c)
    (hpre : pre env c = none) : (expectedOne env cfg st line c L).1.sec = secOf st c := by
  rcases pre_none_cases hpre with ⟨_, rfl⟩ | ⟨_, rfl⟩ | ⟨_, _, _, _, _, rfl⟩ | ⟨_, _, rfl⟩ | ⟨_, _, _, _, rfl⟩
  all_goals rfl

/-- the options `DiffXWriter.__init__` writes on `#diffx:` -/
def mainOpts (enc : Name) : List (Bytes × Option HVal) :=
  [(b!"encoding", some (HVal.str enc)), (b!"version", some (HVal.str (Text.ofAscii b!"1.0")))]

/-- **the records a reader must yield** for the program `DiffXWriter(fp, encoding=enc)`, `calls` -/
def expectedRecords (env : Env) (cfg : Config) (enc : Name) (calls : List Call)
    (laws : ProgramLaws env cfg enc calls) : List Reader.Record :=
  ⟨⟨0, .diffx⟩, 0, recOpts (mainOpts enc), .container⟩ ::
    expectedFrom env cfg (init (some enc) (Text.ofAscii b!"1.0")).1 1 calls laws.calls

/-- the writer's `_stack`, above its bottom frame, read as the reader's `encodings` list.  The `stack` fields of
`Related` and of `Conform.Inv` are this proposition written out.  The bottom frames differ: the constructor's `encoding` there,
`None` here; the main header pushes the same on both. -/
def Mirrors (ws : List (Option Name)) (rs : List (Option OptVal)) : Prop :=
  ∃ b s, ws = b :: s ∧ s ≠ [] ∧ rs = none :: s.map encOpt

theorem Mirrors.top {ws : List (Option Name)} {rs : List (Option OptVal)} (h : Mirrors ws rs) :
    Reader.topEnc rs = encOpt ((ws.getLast?).getD none) := by
  obtain ⟨b, s, rfl, hs, rfl⟩ := h
  obtain ⟨s', x, rfl⟩ := exists_concat_of_ne_nil hs
  have e1 : (none :: (s' ++ [x]).map encOpt) = (none :: s'.map encOpt) ++ [encOpt x] := by simp
  have e2 : b :: (s' ++ [x]) = (b :: s') ++ [x] := by simp
  rw [Reader.topEnc, e1, e2, List.getLast?_concat, List.getLast?_concat]
  rfl

/-- `k = 0`: `new_change`, `k = 1`: `new_file` (`section_level = k + 2`); `ws.length - 2` is the reader's
`prev_container_level` (`Related.level`) -/
theorem Mirrors.push {ws : List (Option Name)} {rs : List (Option OptVal)} (h : Mirrors ws rs) {k : Nat}
    (hl : k + 2 ≤ ws.length) {sec : SecId} (hsl : sec.level = k + 1) (hm : sec ≠ SecId.main)
    {enc : Option Name} (he : EncOk enc) :
    Mirrors (pushFrame ws (k + 2) enc) (Reader.pushEnc rs (ws.length - 2) sec (encOpt enc)) ∧
      (pushFrame ws (k + 2) enc).length = k + 3 := by
  obtain ⟨b, s, rfl, hs, rfl⟩ := h
  rw [List.length_cons] at hl
  have hk : s.take (k + 1) ≠ [] := by
    intro h0
    rcases List.take_eq_nil_iff.mp h0 with h | h
    · omega
    · exact hs h
  -- both sides keep the bottom frame and the `k + 1` frames above it and push one frame: the writer the given
  -- encoding or else its top (`pushFrame_eq`), the reader the option or else its top (`pushEnc_eq`); the two tops
  -- mirror each other (`Mirrors.top` of the frames kept)
  rw [pushFrame_eq _ (by simp only [List.length_cons]; omega), List.take_succ_cons, List.cons_append,
    Reader.pushEnc_eq _ hm (by simp only [List.length_cons, List.length_map]; omega)
      (by simp only [List.length_cons]; omega), hsl, List.take_succ_cons, ← List.map_take,
    Mirrors.top ⟨b, _, rfl, hk, rfl⟩]
  refine ⟨⟨b, _, rfl, by simp, ?_⟩, by simp [List.length_take]; omega⟩
  simp only [List.map_append, List.map_cons, List.map_nil, List.cons_append, List.cons.injEq, true_and]
  congr 1
  cases enc with
  | none => simp [encOpt, truthy]
  | some n =>
    have := (he n rfl).truthy
    simp [encOpt, this]

/-- the id, the option list handed to `_write_section_header` and the content bytes of the section
a call writes in state `st` -/
def callSec (env : Env) (cfg : Config) (st : St) : (c : Call) → CallLaws env cfg st c →
    SecId × List (Bytes × Option HVal) × Bytes
  | .newChange enc, _ => (⟨1, .change⟩, [(b!"encoding", enc.map HVal.str)], [])
  | .newFile enc, _ => (⟨2, .file⟩, [(b!"encoding", enc.map HVal.str)], [])
  | .preamble (.str _) enc indent _ mime, L =>
    (⟨st.level, .preamble⟩, contentOpts [(b!"mimetype", mime.map HVal.str)] enc indent L.data.length true L.leOut,
      L.data)
  | .metadata (.dict _) enc fmt, L =>
    (⟨st.level, .metadata⟩,
      contentOpts [(b!"format", some (HVal.str fmt))] enc none L.tl.plain.length false L.leOut, L.tl.plain)
  | .diff (.bytes _) dtype enc _, L =>
    (⟨st.level, .diff⟩, contentOpts [(b!"type", dtype.map HVal.str)] enc none L.data.length true L.leOut, L.data)
  | c, _ => (secOf st c, [], [])

theorem accepted {env : Env} {cfg : Config} {st : St} {c : Call} (hok : (step env cfg st c).2 = .ok)
    (L : CallLaws env cfg st c) :
    ∃ header, pre env c = none ∧ validate st (callSec env cfg st c L).1 = .ok () ∧
      renderHeader (callSec env cfg st c L).1 (callSec env cfg st c L).2.1 = .ok header ∧
      step env cfg st c = (⟨st.out ++ (header ++ (callSec env cfg st c L).2.2), newStack st c,
        some (callSec env cfg st c L).1⟩, .ok) := by
  obtain ⟨b, _, hpre, hv, hpl, hstep⟩ := step_accepted hok
  rw [hstep]
  rcases pre_none_cases hpre with ⟨enc, rfl⟩ | ⟨enc, rfl⟩ | ⟨t, enc, indent, le, mime, rfl⟩ |
    ⟨j, enc, rfl⟩ | ⟨d, dtype, enc, le, rfl⟩
  · obtain ⟨hr, _⟩ := containerPayload_ok_iff.mp hpl
    exact ⟨b, rfl, hv, hr, by simp [callSec, secOf]⟩
  · obtain ⟨hr, _⟩ := containerPayload_ok_iff.mp hpl
    exact ⟨b, rfl, hv, hr, by simp [callSec, secOf]⟩
  · obtain ⟨data, leOut, header, hprep, hr, rfl, _⟩ :=
      contentPayload_ok_iff.mp hpl
    obtain ⟨rfl, rfl⟩ := Prod.mk.inj (Except.ok.inj (hprep.symm.trans L.hprep))
    exact ⟨header, hpre, hv, hr, rfl⟩
  · have hd : liftEnv (env.dumps j) = .ok L.text := by rw [L.hdumps]; rfl
    simp only [payload, hd] at hpl
    obtain ⟨data, leOut, header, hprep, hr, rfl, _⟩ :=
      contentPayload_ok_iff.mp hpl
    obtain ⟨rfl, rfl⟩ := Prod.mk.inj (Except.ok.inj (hprep.symm.trans L.tl.hplain))
    exact ⟨header, hpre, hv, hr, rfl⟩
  · obtain ⟨data, leOut, header, hprep, hr, rfl, _⟩ :=
      contentPayload_ok_iff.mp hpl
    obtain ⟨rfl, rfl⟩ := Prod.mk.inj (Except.ok.inj (hprep.symm.trans L.hprep))
    exact ⟨header, hpre, hv, hr, rfl⟩

theorem get_of_lookup {opts : List (Bytes × Option HVal)} (hnd : (opts.map (·.1)).Nodup) {k : Bytes}
    {v : Option HVal} (h : optLookup opts k = v) :
    (recOpts opts).get k = v.map (fun v => convert v.text.toAscii) := by
  unfold recOpts
  rw [reported_written_get opts hnd, h]

/-- `hr` is there for the case of a name: one the writer accepted is not read back as a number (`written_str`) -/
theorem get_encoding_reported {sec : SecId} {opts : List (Bytes × Option HVal)} {header : Bytes}
    (hnd : (opts.map (·.1)).Nodup) (hr : renderHeader sec opts = .ok header) {enc : Option Name}
    (h : optLookup opts b!"encoding" = enc.map HVal.str) : (recOpts opts).get b!"encoding" = encOpt enc := by
  rw [get_of_lookup hnd h]
  cases enc with
  | none => rfl
  | some m =>
    have := written_str hr (optLookup_mem h)
    simp only [Option.map_some, encOpt, HVal.text, this]

/-- `k0`, `v0`: the option of the call's own, `mimetype` / `format` / `type` -/
theorem contentOpts_lookup {k0 : Bytes} {v0 : Option HVal} (hk0 : keyOk k0 = true)
    (h0 : k0 ∉ [b!"encoding", b!"indent", b!"length", b!"line_endings"])
    {enc : Option Name} {indent : Option Int} {n : Nat} {wl : Bool} {le : Text}
    {opts : List (Bytes × Option HVal)} (ho : opts = contentOpts [(k0, v0)] enc indent n wl le) :
    (opts.map (·.1)).Nodup ∧ (∀ p ∈ opts, keyOk p.1 = true) ∧ optLookup opts k0 = v0 ∧
    optLookup opts b!"encoding" = enc.map HVal.str ∧ optLookup opts b!"indent" = indent.map HVal.int ∧
    optLookup opts b!"length" = some (HVal.int n) ∧
    optLookup opts b!"line_endings" = (if wl then some (HVal.str le) else none) := by
  have h1 : k0 ≠ b!"encoding" := fun e => h0 (by rw [e]; decide)
  have h2 : k0 ≠ b!"indent" := fun e => h0 (by rw [e]; decide)
  have h3 : k0 ≠ b!"length" := fun e => h0 (by rw [e]; decide)
  have h4 : k0 ≠ b!"line_endings" := fun e => h0 (by rw [e]; decide)
  have hl : opts = (k0, v0) :: (b!"encoding", enc.map HVal.str) :: (b!"indent", indent.map HVal.int) ::
      (b!"length", some (HVal.int n)) :: (if wl then [(b!"line_endings", some (HVal.str le))] else []) := ho
  have hkeys : ∃ ks, opts.map (·.1) = k0 :: ks ∧ ks.Nodup ∧ k0 ∉ ks ∧ ∀ k ∈ ks, keyOk k = true := by
    subst ho
    cases wl
    · exact ⟨[b!"encoding", b!"indent", b!"length"], rfl, by decide,
        fun h => h0 (List.mem_append_left [b!"line_endings"] h), by decide⟩
    · exact ⟨[b!"encoding", b!"indent", b!"length", b!"line_endings"], rfl, by decide, h0, by decide⟩
  obtain ⟨ks, hks, hnd, hnot, hok⟩ := hkeys
  refine ⟨?_, ?_, ?_, ?_, ?_, ?_, ?_⟩
  · rw [hks]
    exact List.nodup_cons.mpr ⟨hnot, hnd⟩
  · intro p hp
    have hm : p.1 ∈ k0 :: ks := hks ▸ List.mem_map_of_mem hp
    rcases List.mem_cons.mp hm with h | h
    · rw [h]; exact hk0
    · exact hok _ h
  · rw [hl, optLookup_cons_self]
  -- behind `k0` the keys are constants: the lookups are computed
  · rw [hl, optLookup_cons_ne h1]
    rfl
  · rw [hl, optLookup_cons_ne h2]
    rfl
  · rw [hl, optLookup_cons_ne h3]
    rfl
  · rw [hl, optLookup_cons_ne h4]
    cases wl <;> rfl

theorem contentOpts_reported {sec : SecId} {k0 : Bytes} {v0 : Option HVal} (hk0 : keyOk k0 = true)
    (h0 : k0 ∉ [b!"encoding", b!"indent", b!"length", b!"line_endings"])
    {enc : Option Name} {indent : Option Int} {n : Nat} {wl : Bool} {le : Text} {dos : Bool} (hle : le = leKind dos)
    {opts : List (Bytes × Option HVal)} (ho : opts = contentOpts [(k0, v0)] enc indent n wl le)
    {header : Bytes} (hr : renderHeader sec opts = .ok header)
    (hib : ∀ i, indent = some i → 0 ≤ i ∧ i.toNat ≤ Reader.maxRead) (hn : n ≤ Reader.maxRead) :
    (recOpts opts).get k0 = v0.map (fun v => convert v.text.toAscii) ∧
    (recOpts opts).get b!"encoding" = encOpt enc ∧ (recOpts opts).get b!"indent" = indent.map OptVal.int ∧
    (recOpts opts).get b!"length" = some (.int (n : Int)) ∧
    (recOpts opts).get b!"line_endings" = (if wl then some (.str le.toAscii) else none) := by
  obtain ⟨hnd, -, g0, g1, g2, g3, g4⟩ := contentOpts_lookup hk0 h0 ho
  refine ⟨get_of_lookup hnd g0, get_encoding_reported hnd hr g1, ?_, ?_, ?_⟩
  · rw [get_of_lookup hnd g2, convert_indent indent hib]
  · rw [get_of_lookup hnd g3, Option.map_some, convert_nat n hn]
  · rw [get_of_lookup hnd g4, hle]
    cases wl
    · rfl
    · simp only [if_true, Option.map_some, convert_leKind]

/-- an indent is at most the length of the data it indents, so `hlen` bounds it as well and `convert_int` applies -/
theorem PreambleLaws.indent_bound {env : Env} {cfg : Config} {st : St} {t : Text} {enc : Option Name}
    {indent : Option Int} {le : Option Text} (L : PreambleLaws env cfg st t enc indent le) :
    ∀ i, indent = some i → 0 ≤ i ∧ i.toNat ≤ Reader.maxRead := by
  intro i hi
  subst hi
  have h0 := L.indentOk i rfl
  exact ⟨h0, Nat.le_trans (prepareContent_indent_le L.hprep) L.hlen⟩

/-- **the writer state after some accepted calls and the reader loop state after reading the
sections they wrote** (the reader's unread suffix is not constrained here): the reader's
encoding stack mirrors the writer's (`stack` is `Mirrors st.stack l.encodings` written out), the reader allows what
may follow the last section written, the writer's stack is as deep as that section says (the last conjunct of
`prev`, with the first, is `LevelInv st` of `Lemmas/Order.lean`), both
agree on the open container level, the file's newline convention has been fixed to LF, and `line`
logical lines have been read -/
structure Related (st : St) (l : Reader.Loop) (line : Nat) : Prop where
  stack : ∃ b s, st.stack = b :: s ∧ s ≠ [] ∧ l.encodings = none :: s.map encOpt
  prev : ∃ p, st.prev = some p ∧ l.valid = validNext p ∧ st.stack.length = depth p + 2
  level : l.prevLevel = st.stack.length - 2
  crlf : l.st.fileCrlf = some false
  line : l.st.linenum = line

theorem Related.sec_mem {st : St} {l : Reader.Loop} {line : Nat} (R : Related st l line) (sec : SecId)
    (hv : validate st sec = .ok ()) : sec ∈ l.valid ∧ sec ∈ SecId.legal := by
  obtain ⟨p, hp, hval, _⟩ := R.prev
  have := (validate_ok_iff st sec).mp hv p hp
  rw [hval]
  exact ⟨this, validNext_legal this⟩

theorem encOpts_nodup (enc : Option Name) :
    (([((b!"encoding" : Bytes), enc.map HVal.str)] : List (Bytes × Option HVal)).map (·.1)).Nodup :=
  show ([b!"encoding"] : List Bytes).Nodup by decide

theorem container_kinds {k : Nat} {name : SecName} (hkn : (k = 0 ∧ name = .change) ∨ (k = 1 ∧ name = .file)) :
    contentSections.contains (⟨k + 1, name⟩ : SecId) = false ∧
    preambleSections.contains (⟨k + 1, name⟩ : SecId) = false ∧
    metaSections.contains (⟨k + 1, name⟩ : SecId) = false ∧ (⟨k + 1, name⟩ : SecId) ≠ SecId.main ∧
    depth ⟨k + 1, name⟩ = k + 1 := by
  rcases hkn with ⟨rfl, rfl⟩ | ⟨rfl, rfl⟩ <;> decide

/-- `new_change` (`k = 0`) / `new_file` (`k = 1`) -/
theorem sim_container {env : Env} {cfg : Config} {chunk : Nat} (hc : 0 < chunk) {st : St} {l : Reader.Loop}
    {line : Nat} (R : Related st l line) {k : Nat} {name : SecName}
    (hkn : (k = 0 ∧ name = .change) ∨ (k = 1 ∧ name = .file))
    {enc : Option Name} (he : EncOk enc)
    (hv : validate st ⟨k + 1, name⟩ = .ok ())
    {header : Bytes} (hr : renderHeader ⟨k + 1, name⟩ [(b!"encoding", enc.map HVal.str)] = .ok header)
    {post : Bytes} (hrest : l.st.rest = header ++ post) :
    ∃ l', Reader.stepSection env cfg chunk l =
        .ok (some (⟨⟨k + 1, name⟩, line, recOpts [(b!"encoding", enc.map HVal.str)], .container⟩, l')) ∧
      Related ⟨st.out ++ header, pushFrame st.stack (k + 2) enc, some ⟨k + 1, name⟩⟩ l' (line + 1) ∧
      l'.st.rest = post := by
  obtain ⟨hmem, hleg⟩ := R.sec_mem _ hv
  obtain ⟨hcs, -, -, hmain, hdepth⟩ := container_kinds hkn
  have hnd := encOpts_nodup enc
  have hgenc : (recOpts [(b!"encoding", enc.map HVal.str)]).get b!"encoding" = encOpt enc :=
    get_encoding_reported hnd hr rfl
  have hstep : Reader.stepSection env cfg chunk l = Reader.stepHdr env cfg l.encodings l.prevLevel
      ⟨_, recOpts [(b!"encoding", enc.map HVal.str)]⟩ l.st.linenum ⟨post, l.st.linenum + 1, some false⟩ :=
    written_step hc (Or.inr R.crlf) [] hr hmem (legal_level _ hleg)
      (by intro p hp; rw [List.mem_singleton.mp hp]; exact (by decide : keyOk b!"encoding" = true)) hnd
      (by rw [List.append_nil]; exact hrest)
  rw [R.line, Reader.stepHdr_container hcs (Reader.verCheck_skip hmain _ _), hgenc] at hstep
  refine ⟨_, hstep, ?_, rfl⟩
  obtain ⟨p, hp, -, hlen⟩ := R.prev
  have hks : k + 2 ≤ st.stack.length := by
    rcases hkn with ⟨rfl, rfl⟩ | ⟨rfl, rfl⟩
    · omega
    · have := file_mem_validNext ((validate_ok_iff st _).mp hv p hp)
      omega
  obtain ⟨hS, hL⟩ := Mirrors.push R.stack hks (sec := ⟨k + 1, name⟩) rfl hmain he
  exact {
    stack := by rw [R.level]; exact hS
    prev := ⟨_, rfl, rfl, by rw [hL, hdepth]⟩
    level := by rw [hL]; rfl
    crlf := rfl
    line := rfl }

/-- the relation after a content section: only the reader's position and the allowed sections change -/
theorem Related.content {st : St} {l : Reader.Loop} {line : Nat} (R : Related st l line) (name : SecName)
    (hn : name = .preamble ∨ name = .metadata ∨ name = .diff) (out' post : Bytes) (line' : Nat) :
    Related ⟨out', st.stack, some ⟨st.level, name⟩⟩
      ⟨⟨post, line', some false⟩, validNext ⟨st.level, name⟩, l.encodings, l.prevLevel⟩ line' := by
  obtain ⟨p, -, -, hlen⟩ := R.prev
  refine { stack := R.stack, prev := ⟨_, rfl, rfl, ?_⟩, level := R.level, crlf := rfl, line := rfl }
  have hd : depth ⟨st.level, name⟩ = st.level - 1 := by
    rcases hn with rfl | rfl | rfl <;> simp [depth]
  simp only
  rw [hd, St.level]
  omega

/-- the effective encoding of a preamble / metadata call (`TextLaws.heff`): its own when given, else the current one -/
theorem eff_cases {enc cur : Option Name} (he : EncOk enc) {e : Name}
    (heff : (if truthy enc then enc else cur) = some e) : enc = some e ∨ enc = none ∧ cur = some e := by
  cases enc with
  | none => exact .inr ⟨rfl, heff⟩
  | some n =>
    rw [(he n rfl).truthy] at heff
    exact .inl heff

/-- the encoding `_read_content` is given for a preamble / metadata section -/
theorem contentEncoding_inherit {st : St} {l : Reader.Loop} {line : Nat} (R : Related st l line)
    {sec : SecId} (hs : sec ≠ SecId.fileDiff) {o : Opts} {enc : Option Name} (he : EncOk enc)
    (hg : o.get b!"encoding" = encOpt enc) {encName : Bytes}
    (heff : (if truthy enc then enc else st.curEncoding) = some (Text.ofAscii encName)) :
    Reader.contentEncoding sec o l.encodings = some (.str encName) := by
  unfold Reader.contentEncoding
  rw [if_neg hs, hg]
  rcases eff_cases he heff with rfl | ⟨rfl, hcur⟩
  · simp only [encOpt, Option.map_some, toAscii_ofAscii]
  · simp only [encOpt, Option.map_none]
    rw [Mirrors.top R.stack, ← St.curEncoding, hcur]
    simp only [encOpt, Option.map_some, toAscii_ofAscii]

/-- **a content call, whatever its kind** (`opts`: its option list): the header is read back, the
options are reported as written, `length` bytes are handed to `_read_content`; what that returns on
them (`hrc`), the `format` check (`hfmt`) and the record's content (`hco`) are what is particular to
the kind -/
theorem sim_content {env : Env} {cfg : Config} {chunk : Nat} (hc : 0 < chunk) {st : St} {l : Reader.Loop}
    {line : Nat} (R : Related st l line) {name : SecName}
    (hn : name = .preamble ∨ name = .metadata ∨ name = .diff)
    {k0 : Bytes} {v0 : Option HVal} (hk0 : keyOk k0 = true)
    (h0 : k0 ∉ [b!"encoding", b!"indent", b!"length", b!"line_endings"])
    {enc : Option Name} {indent : Option Int} {wl : Bool} {data : Bytes} {le : Text} {dos : Bool}
    (hle : le = leKind dos) (hib : ∀ i, indent = some i → 0 ≤ i ∧ i.toNat ≤ Reader.maxRead)
    (hlen : data.length ≤ Reader.maxRead) {opts : List (Bytes × Option HVal)}
    (ho : opts = contentOpts [(k0, v0)] enc indent data.length wl le)
    (hv : validate st ⟨st.level, name⟩ = .ok ()) {header : Bytes}
    (hr : renderHeader ⟨st.level, name⟩ opts = .ok header)
    {post : Bytes} (hrest : l.st.rest = header ++ data ++ post)
    (got : Reader.Got) (c : Reader.Content) (lines : Nat)
    (hfmt : ∀ o : Opts, o.get k0 = v0.map (fun v => convert v.text.toAscii) →
      Reader.fmtCheck ⟨st.level, name⟩ o line = .ok ())
    (hrc : ∀ o : Opts, o.get b!"encoding" = encOpt enc → o.get b!"indent" = indent.map OptVal.int →
      Reader.readContent env cfg ⟨data ++ post, line + 1, some false⟩ data.length
        (Reader.contentEncoding ⟨st.level, name⟩ o l.encodings) (Reader.rcIndent ⟨st.level, name⟩ o)
        (if wl then some (.str le.toAscii) else none) (Reader.rcKeep ⟨st.level, name⟩) =
          .ok (got, ⟨post, line + 1 + lines, some false⟩))
    (hco : Reader.contentOf env ⟨st.level, name⟩ line got = .ok c) :
    ∃ l', Reader.stepSection env cfg chunk l = .ok (some (⟨⟨st.level, name⟩, line, recOpts opts, c⟩, l')) ∧
      Related ⟨st.out ++ (header ++ data), st.stack, some ⟨st.level, name⟩⟩ l' (line + (1 + lines)) ∧
      l'.st.rest = post := by
  obtain ⟨hmem, hleg⟩ := R.sec_mem _ hv
  obtain ⟨hnd, hk, -⟩ := contentOpts_lookup hk0 h0 ho
  obtain ⟨hg0, hgenc, hgind, hglen, hgle⟩ := contentOpts_reported hk0 h0 hle ho hr hib hlen
  have hstep : Reader.stepSection env cfg chunk l = Reader.stepHdr env cfg l.encodings l.prevLevel
      ⟨_, recOpts opts⟩ l.st.linenum ⟨data ++ post, l.st.linenum + 1, some false⟩ :=
    written_step hc (Or.inr R.crlf) data hr hmem
      (legal_level _ hleg) hk hnd hrest
  rw [R.line, Reader.stepHdr_content (st' := ⟨post, line + 1 + lines, some false⟩)
    (legal_content _ hleg hn) hglen (hfmt _ hg0) (by rw [hgle]; exact hrc _ hgenc hgind) hco] at hstep
  refine ⟨_, hstep, ?_, rfl⟩
  rw [show line + (1 + lines) = line + 1 + lines by omega]
  exact R.content name hn _ _ _

theorem init_accepted (enc : Name) (h : (init (some enc) (Text.ofAscii b!"1.0")).2 = .ok) :
    ∃ header, renderHeader ⟨0, .diffx⟩ (mainOpts enc) = .ok header ∧
      init (some enc) (Text.ofAscii b!"1.0") = (⟨header, [some enc, some enc], some ⟨0, .diffx⟩⟩, .ok) := by
  obtain ⟨b, hpl, hi⟩ := Writer.init_ok_inv h
  obtain ⟨hr, _⟩ := containerPayload_ok_iff.mp hpl
  have hp : pushFrame [some enc] 1 (some enc) = [some enc, some enc] := by
    cases ht : truthy (some enc) <;> simp [pushFrame, ht]
  rw [hp] at hi
  exact ⟨b, hr, Prod.ext hi h⟩

theorem mainOpts_nodup (enc : Name) : ((mainOpts enc).map (·.1)).Nodup :=
  show ([b!"encoding", b!"version"] : List Bytes).Nodup by decide

theorem mainOpts_keys (enc : Name) : ∀ p ∈ mainOpts enc, keyOk p.1 = true := by
  intro p hp
  simp only [mainOpts, List.mem_cons, List.not_mem_nil, or_false] at hp
  rcases hp with rfl | rfl
  · exact (by decide : keyOk b!"encoding" = true)
  · exact (by decide : keyOk b!"version" = true)

theorem main_iter (env : Env) (cfg : Config) {chunk : Nat} (hc : 0 < chunk) {enc : Name}
    {header : Bytes} (post : Bytes) (hr : renderHeader ⟨0, .diffx⟩ (mainOpts enc) = .ok header) (out : Bytes) :
    ∃ l', Reader.stepSection env cfg chunk (Reader.Loop.init (header ++ post)) =
        .ok (some (⟨⟨0, .diffx⟩, 0, recOpts (mainOpts enc), .container⟩, l')) ∧
      Related ⟨out, [some enc, some enc], some ⟨0, .diffx⟩⟩ l' 1 ∧ l'.st.rest = post := by
  have hnd := mainOpts_nodup enc
  have hgenc : (recOpts (mainOpts enc)).get b!"encoding" = encOpt (some enc) :=
    get_encoding_reported hnd hr rfl
  have hgver : (recOpts (mainOpts enc)).get b!"version" = some (.str b!"1.0") := by
    rw [get_of_lookup hnd (k := b!"version") (v := some (HVal.str (Text.ofAscii b!"1.0"))) rfl]
    decide
  have hver : Reader.verCheck ⟨0, .diffx⟩ (recOpts (mainOpts enc)) 0 = .ok () := by
    unfold Reader.verCheck
    rw [if_pos (show (⟨0, .diffx⟩ : SecId) = SecId.main from rfl), hgver]
    rfl
  have hstep : Reader.stepSection env cfg chunk (Reader.Loop.init (header ++ post)) =
      Reader.stepHdr env cfg [none] 0 ⟨_, recOpts (mainOpts enc)⟩ 0 ⟨post, 1, some false⟩ :=
    written_step hc (l := Reader.Loop.init (header ++ post)) (Or.inl rfl) [] hr
      (by simp [Reader.Loop.init, SecId.main]) (by decide) (mainOpts_keys enc) hnd (by rw [List.append_nil]; rfl)
  rw [Reader.stepHdr_container (by decide) hver, hgenc] at hstep
  exact ⟨_, hstep, {
    stack := ⟨some enc, [some enc], rfl, by simp, rfl⟩
    prev := ⟨⟨0, .diffx⟩, rfl, rfl, rfl⟩
    level := rfl
    crlf := rfl
    line := rfl }, rfl⟩

end Diffx.RunRT
