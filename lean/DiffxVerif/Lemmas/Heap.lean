import DiffxVerif.Model.Heap
import DiffxVerif.Lemmas.Assoc
/-!
# Lemmas about the heap model (for C18)

Two facts carry everything.  (1) What an allocating operation creates refers to the cells
`range' s.next k`, each once, and moves the counter by `k`.  (2) `setAt` inside a `flatMap`
changes a count by what it changes in the one element.  The invariant `Inv` is preserved by
"add references to `range' s.next k`" (`Inv.fresh`) and by "add one reference to a caller
cell" (`Inv.share`); every operation is one of the two.
-/
namespace Diffx.C18
open Diffx.Heap

/-- cells that belong to the caller (dictionaries assigned with `section.meta = d`) -/
def callerCells (s : State) : List Nat := s.callers.map (·.2)

end Diffx.C18

namespace Diffx.Heap
open List

theorem setAt_nil {α} (i : Nat) (f : α → α) : setAt ([] : List α) i f = [] := rfl

theorem setAt_cons_zero {α} (x : α) (l : List α) (f : α → α) : setAt (x :: l) 0 f = f x :: l := by
  have h : List.mapIdx (fun _ y => y) l = l := by apply List.ext_getElem <;> simp
  simp [setAt, List.mapIdx_cons, h]

theorem setAt_cons_succ {α} (x : α) (l : List α) (i : Nat) (f : α → α) :
    setAt (x :: l) (i + 1) f = x :: setAt l i f := by
  simp [setAt, List.mapIdx_cons]

theorem count_flatMap_setAt_le {α} {g : α → List Nat} {f : α → α} {c k : Nat}
    (h : ∀ x, count c (g (f x)) ≤ count c (g x) + k) :
    ∀ (l : List α) (i : Nat), count c ((setAt l i f).flatMap g) ≤ count c (l.flatMap g) + k
  | [], i => by simp [setAt_nil]
  | x :: l, 0 => by
    rw [setAt_cons_zero]
    simp only [List.flatMap_cons, List.count_append]
    have := h x
    omega
  | x :: l, i + 1 => by
    rw [setAt_cons_succ]
    simp only [List.flatMap_cons, List.count_append]
    have := count_flatMap_setAt_le h l i
    omega

theorem count_append_flatMap_setAt_le {α} {g : α → List Nat} {f : α → α} {c k : Nat}
    (h : ∀ x, count c (g (f x)) ≤ count c (g x) + k) {pre : List Nat} {l : List α} {i : Nat} :
    count c (pre ++ (setAt l i f).flatMap g) ≤ count c (pre ++ l.flatMap g) + k := by
  have := count_flatMap_setAt_le h l i
  simp only [List.count_append]
  omega

theorem count_le_flatMap_of_mem {α} (g : α → List Nat) (c : Nat) {b : α} {l : List α} (h : b ∈ l) :
    count c (g b) ≤ count c (l.flatMap g) := by
  rw [List.flatMap_def]
  exact (List.sublist_flatten_of_mem (List.mem_map_of_mem h)).count_le c

theorem count_add_le_flatMap {α} (g : α → List Nat) (c : Nat) {a b : α} (l : List α) (i j : Nat)
    (hij : i < j) (hi : l[i]? = some a) (hj : l[j]? = some b) :
    count c (g a) + count c (g b) ≤ count c (l.flatMap g) := by
  have ha : a ∈ l.take j := List.mem_of_getElem? ((List.getElem?_take_of_lt hij).trans hi)
  have hb : b ∈ l.drop j := List.mem_of_getElem? (i := 0) (List.getElem?_drop.trans hj)
  have h1 := count_le_flatMap_of_mem g c ha
  have h2 := count_le_flatMap_of_mem g c hb
  rw [← List.take_append_drop j l, List.flatMap_append, List.count_append]
  omega

theorem newFile_eq (s : State) :
    newFile s = (⟨s.next, s.next + 1, s.next + 2, s.next + 3, s.next + 4⟩, { s with next := s.next + 5 }) := rfl

theorem newChange_eq (s : State) :
    newChange s = (⟨s.next, s.next + 1, s.next + 2, s.next + 3, s.next + 4, []⟩, { s with next := s.next + 5 }) := rfl

theorem newTreeCells_eq (s : State) :
    newTreeCells s = (⟨s.next, s.next + 1, s.next + 2, s.next + 3, s.next + 4, []⟩, { s with next := s.next + 5 }) := rfl

theorem five_eq_range' (n : Nat) : [n, n + 1, n + 2, n + 3, n + 4] = range' n 5 := rfl

theorem copyFiles_spec : ∀ (l : List HFile) (s : State), ∃ k,
    (copyFiles s l).2 = { s with next := s.next + k } ∧
      (copyFiles s l).1.flatMap fileCells = range' s.next k
  | [], s => ⟨0, rfl, rfl⟩
  | _ :: r, s => by
    obtain ⟨k, h1, h2⟩ := copyFiles_spec r { s with next := s.next + 5 }
    refine ⟨5 + k, ?_, ?_⟩
    · simp only [copyFiles, newFile_eq, h1, Nat.add_assoc]
    · simp only [copyFiles, newFile_eq, List.flatMap_cons, h2, fileCells, five_eq_range',
        range'_append_1]

theorem copyChanges_spec : ∀ (l : List HChange) (s : State), ∃ k,
    (copyChanges s l).2 = { s with next := s.next + k } ∧
      (copyChanges s l).1.flatMap changeCells = range' s.next k
  | [], s => ⟨0, rfl, rfl⟩
  | ch :: r, s => by
    obtain ⟨k₁, f1, f2⟩ := copyFiles_spec ch.files { s with next := s.next + 5 }
    obtain ⟨k₂, h1, h2⟩ := copyChanges_spec r (copyFiles { s with next := s.next + 5 } ch.files).2
    refine ⟨5 + k₁ + k₂, ?_, ?_⟩
    · rw [copyChanges, newChange_eq, h1, f1]
      simp only [Nat.add_assoc]
    · rw [copyChanges, newChange_eq]
      simp only [List.flatMap_cons, changeCells]
      rw [h2, f2, f1]
      simp only [five_eq_range', range'_append_1, Nat.add_assoc]

/-- No aliasing except through a dictionary of the caller's.  (`newFile`, `newChange`, `newTreeCells` allocate
five cells each, one per mutable object the constructor creates: hence the `5` and `range' s.next 5` below.) -/
structure Inv (s : State) : Prop where
  /-- every cell a tree refers to has been allocated: what is allocated next is referred to by nothing yet -/
  cells_lt : ∀ c ∈ allCells s, c < s.next
  /-- the same for the caller's cells, so that a fresh cell is never one of them -/
  callers_lt : ∀ c ∈ C18.callerCells s, c < s.next
  /-- a cell that is not the caller's is referred to from one place at most -/
  once : ∀ c, c ∉ C18.callerCells s → count c (allCells s) ≤ 1

theorem Inv_init : Inv State.init :=
  ⟨by simp [State.init, allCells], by simp [State.init, C18.callerCells], by simp [State.init, allCells]⟩

theorem Inv.fresh {s s' : State} (k : Nat) (hs : Inv s) (hnext : s'.next = s.next + k)
    (hcal : C18.callerCells s' = C18.callerCells s)
    (hcount : ∀ c, count c (allCells s') ≤ count c (allCells s) + count c (range' s.next k)) :
    Inv s' := by
  have old c (h : s.next ≤ c) : count c (allCells s) = 0 :=
    List.count_eq_zero.2 fun hc => by have := hs.cells_lt c hc; omega
  refine ⟨fun c hc => ?_, fun c hc => ?_, fun c hc => ?_⟩
  · have h1 := hcount c
    have h2 := List.count_pos_iff.2 hc
    by_cases h : c < s.next
    · omega
    · rw [old c (by omega), count_range_1'] at h1
      split at h1 <;> omega
  · have := hs.callers_lt c (hcal ▸ hc)
    omega
  · have h1 := hcount c
    have h2 := hs.once c (hcal ▸ hc)
    rw [count_range_1'] at h1
    split at h1
    · rw [old c (by omega)] at h1
      omega
    · omega

theorem Inv.share {s s' : State} (cell : Nat) (hs : Inv s) (hnext : s'.next = s.next)
    (hcal : C18.callerCells s' = C18.callerCells s) (hcell : cell ∈ C18.callerCells s)
    (hcount : ∀ c, count c (allCells s') ≤ count c (allCells s) + count c [cell]) : Inv s' := by
  have hc1 c : count c [cell] = if cell = c then 1 else 0 := by simp [List.count_cons]
  refine ⟨fun c hc => ?_, fun c hc => ?_, fun c hc => ?_⟩
  · have h1 := hcount c
    have h2 := List.count_pos_iff.2 hc
    rw [hnext]
    by_cases h : cell = c
    · exact h ▸ hs.callers_lt cell hcell
    · exact hs.cells_lt c (List.count_pos_iff.1 (by rw [hc1, if_neg h] at h1; omega))
  · have := hs.callers_lt c (hcal ▸ hc)
    omega
  · have h1 := hcount c
    have h2 := hs.once c (hcal ▸ hc)
    rw [hc1, if_neg (fun h => hc (by rw [hcal, ← h]; exact hcell))] at h1
    omega

theorem allCells_def (s : State) : allCells s = s.trees.flatMap treeCells := rfl

theorem Inv_newTree {s : State} (hs : Inv s) : Inv (step s .newTree) :=
  hs.fresh 5 rfl rfl fun c => by
    simp only [step, newTreeCells_eq, allCells_def, List.flatMap_append, List.count_append,
      List.flatMap_cons, List.flatMap_nil, List.append_nil, treeCells, five_eq_range']
    omega

theorem Inv_addChange {s : State} (t : Nat) (hs : Inv s) : Inv (step s (.addChange t)) := by
  simp only [step, newChange_eq]
  split
  · refine hs.fresh 5 rfl rfl fun c => count_flatMap_setAt_le (fun tr => ?_) _ _
    simp only [treeCells, List.flatMap_append, List.count_append, List.flatMap_cons,
      List.flatMap_nil, List.append_nil, changeCells, five_eq_range']
    omega
  · exact hs

theorem Inv_addFile {s : State} (t i : Nat) (hs : Inv s) : Inv (step s (.addFile t i)) := by
  simp only [step, newFile_eq]
  split
  · refine hs.fresh 5 rfl rfl fun c => count_flatMap_setAt_le (fun tr => ?_) _ _
    simp only [treeCells]
    refine count_append_flatMap_setAt_le fun ch => ?_
    simp only [changeCells, List.flatMap_append, List.count_append, List.flatMap_cons,
      List.flatMap_nil, List.append_nil, fileCells, five_eq_range']
    omega
  · exact hs

theorem Inv_callerCell {s : State} (k : Nat) (hs : Inv s) :
    Inv (callerCell s k).2 ∧ (callerCell s k).1 ∈ C18.callerCells (callerCell s k).2 := by
  unfold callerCell
  split
  · exact ⟨hs, List.mem_map_of_mem (Assoc.lookup_mem ‹_›)⟩
  · refine ⟨⟨fun c hc => Nat.lt_succ_of_lt (hs.cells_lt c hc), fun c hc => ?_, fun c hc => ?_⟩,
      by simp [alloc, C18.callerCells]⟩
    · simp only [C18.callerCells, alloc, List.map_append, List.mem_append, List.map_cons, List.map_nil,
        List.mem_singleton] at hc
      rcases hc with hc | rfl
      · exact Nat.lt_succ_of_lt (hs.callers_lt c hc)
      · exact Nat.lt_succ_self _
    · exact hs.once c fun h => hc (by simp only [C18.callerCells, alloc, List.map_append, List.mem_append]; exact .inl h)

theorem Inv_setMeta {s : State} (t : Nat) (p : Path) (k : Nat) (hs : Inv s) :
    Inv (step s (.setMeta t p k)) := by
  simp only [step]
  split
  · obtain ⟨h1, h2⟩ := Inv_callerCell k hs
    refine h1.share _ rfl rfl h2 fun c => count_flatMap_setAt_le (fun tr => ?_) _ _
    -- each `count_cons` leaves one `if` per field; both sides have the same ones but for the cell
    cases p with
    | main =>
      simp only [treeCells, List.count_append, List.count_cons]
      omega
    | change i =>
      simp only [treeCells]
      refine count_append_flatMap_setAt_le fun ch => ?_
      simp only [changeCells, List.count_append, List.count_cons]
      omega
    | file i j =>
      simp only [treeCells]
      refine count_append_flatMap_setAt_le fun ch => ?_
      simp only [changeCells]
      refine count_append_flatMap_setAt_le fun f => ?_
      simp only [fileCells, List.count_cons]
      omega
  · exact hs

theorem Inv_parse {s : State} (t : Nat) (hs : Inv s) : Inv (step s (.parse t)) := by
  simp only [step]
  split
  · rename_i tr _
    obtain ⟨k, h1, h2⟩ := copyChanges_spec tr.changes { s with next := s.next + 5 }
    simp only [newTreeCells_eq, h1]
    refine hs.fresh (5 + k) (Nat.add_assoc ..) rfl fun c => ?_
    simp only [allCells_def, List.flatMap_append, List.count_append, List.flatMap_cons,
      List.flatMap_nil, List.append_nil, treeCells, h2, five_eq_range', range'_append_1]
    omega
  · exact hs

theorem Inv_mutate {s : State} (t : Nat) (p : Path) (sl : Slot) (hs : Inv s) :
    Inv (step s (.mutate t p sl)) := by
  simp only [step]
  split
  · exact ⟨hs.cells_lt, hs.callers_lt, hs.once⟩
  · exact hs

theorem Inv_step {s : State} (op : Op) (hs : Inv s) : Inv (step s op) := by
  cases op with
  | newTree => exact Inv_newTree hs
  | addChange t => exact Inv_addChange t hs
  | addFile t i => exact Inv_addFile t i hs
  | setMeta t p k => exact Inv_setMeta t p k hs
  | parse t => exact Inv_parse t hs
  | observe t => exact hs
  | mutate t p sl => exact Inv_mutate t p sl hs

theorem Inv_foldl (ops : List Op) : ∀ s, Inv s → Inv (ops.foldl step s) := by
  induction ops with
  | nil => exact fun s h => h
  | cons op r ih => exact fun s h => ih _ (Inv_step op h)

theorem Inv_run (ops : List Op) : Inv (run ops) := Inv_foldl ops _ Inv_init

end Diffx.Heap
