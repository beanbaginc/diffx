import DiffxVerif.Properties.C03File
import DiffxVerif.Lemmas.DomZip
/-!
# Loading a foreign document into the object model, structurally

`treeOfDoc` is the tree a document loads as, by recursion over the **document**, a right fold: `partOf`
collects, for the rest of the document, the content sections still waiting for their container header, the
finished files and the finished changes; a `..file` header closes a file, a `.change` header closes a change.
No reader and no loader function is mentioned.  `Loadable` holds the two conditions under which the loader
accepts a well-formed document.  Of well-formedness the shape of the tree needs the hierarchy alone: the
structural lemmas are stated over `Hier`, and `flags_*` read a section's class off its id.

The loader builds its tree from the left, so the two meet in the zipper `Z` of Lemmas/DomZip.lean: `Z.step` is
one section, `Z.close z p` the tree when the rest of the document contributes `p`, `Edge z y` the sections `y`
the hierarchy allows next, `At z c` the invariant between the zipper and the reader's context.  `close_step`
(structural; it needs `Pend`, a fact of the hierarchy: which waiting slots of `partOf` are empty after which
section) and `loadRecord_step` (the loader follows the zipper) give `close_zip` and `fold_zip`, and with the
whole-file theorem `C03_file` (`Properties/C03File.lean`, hence the import) the theorem `C06_foreign_load`
(`Properties/C06Foreign.lean`).

Two facts about `treeOfDoc` alone follow: its sections sit in the slots of their classes whatever the document
(`PartOk`, `partOk`), and at the position which the ids before a section describe (`shapeOf`) it holds that
section's `secOf`, or that header's options (`slotOf`, `containerAt`; `contents_at`, `container_at`, both from `doc_at`).
-/

namespace Diffx.SpecFile
open Diffx Diffx.Spec

/-- `WFFrom` with `HeaderOk.allowed` alone: all that the shape of a document depends on -/
def Hier (env : Env) (cfg : Config) : Ctx → List Sec → Prop
  | _, [] => True
  | c, s :: ss => s.id ∈ allowedNext c.prev ∧ Hier env cfg (c.next env cfg s) ss

theorem hier_of_wf {env : Env} {cfg : Config} {ss : List Sec} : ∀ {c}, WFFrom env cfg c ss → Hier env cfg c ss := by
  induction ss with
  | nil => intro _ _; trivial
  | cons s ss ih => intro c h; exact ⟨h.1.allowed, ih h.2⟩

theorem hier_append {env : Env} {cfg : Config} {pre rest : List Sec} : ∀ {c}, Hier env cfg c (pre ++ rest) →
    Hier env cfg (ctxAfter env cfg c pre) rest := by
  induction pre with
  | nil => intro c h; exact h
  | cons s pre ih => intro c h; exact ih h.2

theorem hier_prefix {env : Env} {cfg : Config} {pre rest : List Sec} : ∀ {c}, Hier env cfg c (pre ++ rest) →
    Hier env cfg c pre := by
  induction pre with
  | nil => intro _ _; trivial
  | cons s pre ih => intro c h; exact ⟨h.1, ih h.2⟩

theorem flags_pre {s : Sec} (hid : s.id = SecId.mainPreamble ∨ s.id = SecId.changePreamble) :
    s.isPreamble = true ∧ s.hasContent = true := by
  rcases hid with h | h <;> simp +decide [Sec.isPreamble, Sec.hasContent, h]

theorem flags_meta {s : Sec} (hid : s.id = SecId.mainMeta ∨ s.id = SecId.changeMeta ∨ s.id = SecId.fileMeta) :
    s.isPreamble = false ∧ s.isMeta = true ∧ s.hasContent = true := by
  rcases hid with h | h | h <;> simp +decide [Sec.isPreamble, Sec.isMeta, Sec.hasContent, h]

theorem flags_diff {s : Sec} (hid : s.id = SecId.fileDiff) :
    s.isPreamble = false ∧ s.isMeta = false ∧ s.hasContent = true := by
  simp +decide [Sec.isPreamble, Sec.isMeta, Sec.hasContent, hid]

end Diffx.SpecFile

namespace Diffx.Foreign
open Diffx Diffx.Spec Diffx.Dom
open Diffx.DomRT (setdefaultIndent fold changeOk fileOk)
open Diffx.SpecFile (next_prev Hier hier_of_wf main_of_allowed_start hier_append hier_prefix flags_pre flags_meta
  flags_diff wf_head)

/-- the value the loader stores as `content` (a preamble that could not be decoded is not stored:
`TypeError`, excluded by `Loadable`) -/
def contentVal : Reader.Content → PyVal
  | .text t => .str t
  | .metadata j => .dict j
  | .diff b => .bytes b
  | _ => .none

/-- the class of a content section (on a container header the value is not used) -/
def kindOf (s : Sec) : Kind :=
  if s.isPreamble then .preamble else if s.isMeta then .metadata else .diff

/-- **the content section object of section `s` read in context `c`**: its class, the options as
written minus `length` (integers converted; for a preamble `indent := None` is recorded when no
indent was written), and what the specification says the section contains -/
def secOf (env : Env) (cfg : Config) (c : Ctx) (s : Sec) : ContentSec :=
  ⟨kindOf s,
   if s.isPreamble then setdefaultIndent (contentOpts (optsOf s)) else contentOpts (optsOf s),
   contentVal (bodyOf env cfg c s)⟩

/-- what the rest of a document contributes to the tree -/
structure Part where
  /-- content sections waiting for the `..file` header they belong to -/
  fileMeta : Option ContentSec := none
  fileDiff : Option ContentSec := none
  /-- the finished files waiting for their `.change` header -/
  files : List FileSec := []
  /-- content sections waiting for the `.change` header they belong to -/
  changePre : Option ContentSec := none
  changeMeta : Option ContentSec := none
  /-- the finished changes -/
  changes : List ChangeSec := []
  /-- the main sections -/
  mainPre : Option ContentSec := none
  mainMeta : Option ContentSec := none
  mainOpts : Option DOpts := none

/-- one section put in front: a content section waits in its slot; a `..file` header takes the
waiting metadata and diff (a fresh section where none waits) and becomes a finished file; a
`.change` header takes the waiting preamble, metadata and the finished files.  A container id looks at its
options `o` only, a content id at its section object `x` only: `partOf` passes both for every section, and
`secOf` of a container header is never looked at. -/
def Part.add (p : Part) (id : SecId) (o : DOpts) (x : ContentSec) : Part :=
  if id = SecId.main then { p with mainOpts := some o }
  else if id = SecId.mainPreamble then { p with mainPre := some x }
  else if id = SecId.mainMeta then { p with mainMeta := some x }
  else if id = SecId.change then
    { p with
      changes := ⟨o, p.changePre.getD newPreamble, p.changeMeta.getD newMeta, p.files⟩ :: p.changes,
      changePre := none, changeMeta := none, files := [], fileMeta := none, fileDiff := none }
  else if id = SecId.changePreamble then { p with changePre := some x }
  else if id = SecId.changeMeta then { p with changeMeta := some x }
  else if id = SecId.file then
    { p with
      files := ⟨o, p.fileMeta.getD newMeta, p.fileDiff.getD newDiff⟩ :: p.files,
      fileMeta := none, fileDiff := none }
  else if id = SecId.fileMeta then { p with fileMeta := some x }
  else if id = SecId.fileDiff then { p with fileDiff := some x }
  else p

def partOf (env : Env) (cfg : Config) : Ctx → List Sec → Part
  | _, [] => {}
  | c, s :: ss =>
    (partOf env cfg (c.next env cfg s) ss).add s.id (optsToPy (optsOf s)) (secOf env cfg c s)

/-- **the tree of a document**: the main options as written (all of them, integers converted),
the main sections (a fresh section where the document has none), the changes -/
def treeOfDoc (env : Env) (cfg : Config) (wv : Text) (doc : List Sec) : Tree :=
  let p := partOf env cfg Ctx.start doc
  ⟨p.mainOpts.getD (newTree cfg.defaultEncoding wv).opts, p.mainPre.getD newPreamble,
   p.mainMeta.getD newMeta, p.changes⟩

def isStr : OptVal → Bool
  | .str _ => true
  | .int _ => false

/-- a container header carries no option other than `encoding`, and its value is not something
`int()` accepts -/
def containerOk (s : Sec) : Bool :=
  s.opts.all (fun p => p.1 == b!"encoding" && isStr (Header.convert p.2))

def secLoadable (c : Ctx) (s : Sec) : Bool :=
  if s.id = SecId.change ∨ s.id = SecId.file then containerOk s
  else if s.isPreamble then (effEnc c s).isSome
  else true

def loadableFrom (env : Env) (cfg : Config) : Ctx → List Sec → Bool
  | _, [] => true
  | c, s :: ss => secLoadable c s && loadableFrom env cfg (c.next env cfg s) ss

/-- **the object model accepts the document** (decidable) -/
def Loadable (env : Env) (cfg : Config) (doc : List Sec) : Prop :=
  loadableFrom env cfg Ctx.start doc = true

instance (env : Env) (cfg : Config) (doc : List Sec) : Decidable (Loadable env cfg doc) :=
  inferInstanceAs (Decidable (_ = true))

section AddEq
variable (p : Part) (o : DOpts) (x : ContentSec)
theorem add_main : p.add SecId.main o x = { p with mainOpts := some o } := rfl
theorem add_mainPre : p.add SecId.mainPreamble o x = { p with mainPre := some x } := rfl
theorem add_mainMeta : p.add SecId.mainMeta o x = { p with mainMeta := some x } := rfl
theorem add_change : p.add SecId.change o x =
    { p with
      changes := ⟨o, p.changePre.getD newPreamble, p.changeMeta.getD newMeta, p.files⟩ :: p.changes,
      changePre := none, changeMeta := none, files := [], fileMeta := none, fileDiff := none } := rfl
theorem add_changePre : p.add SecId.changePreamble o x = { p with changePre := some x } := rfl
theorem add_changeMeta : p.add SecId.changeMeta o x = { p with changeMeta := some x } := rfl
theorem add_file : p.add SecId.file o x =
    { p with
      files := ⟨o, p.fileMeta.getD newMeta, p.fileDiff.getD newDiff⟩ :: p.files,
      fileMeta := none, fileDiff := none } := rfl
theorem add_fileMeta : p.add SecId.fileMeta o x = { p with fileMeta := some x } := rfl
theorem add_fileDiff : p.add SecId.fileDiff o x = { p with fileDiff := some x } := rfl
end AddEq

theorem mem_legal {id : SecId} : id ∈ SecId.legal ↔
    id = SecId.main ∨ id = SecId.mainPreamble ∨ id = SecId.mainMeta ∨ id = SecId.change ∨
    id = SecId.changePreamble ∨ id = SecId.changeMeta ∨ id = SecId.file ∨ id = SecId.fileMeta ∨
    id = SecId.fileDiff := by
  simp [SecId.legal]

/-- Unfolding `Part.add` and splitting its `if`s one after the other is slow to check; the equations
above and this lemma are the way in. -/
theorem add_other (p : Part) {id : SecId} (o : DOpts) (x : ContentSec) (h : id ∉ SecId.legal) :
    p.add id o x = p := by
  simp only [mem_legal, not_or] at h
  obtain ⟨h1, h2, h3, h4, h5, h6, h7, h8, h9⟩ := h
  rw [Part.add, if_neg h1, if_neg h2, if_neg h3, if_neg h4, if_neg h5, if_neg h6, if_neg h7, if_neg h8,
    if_neg h9]

theorem add_main_get (p : Part) (id : SecId) (o : DOpts) (x : ContentSec) :
    (p.add id o x).mainPre = (if id = SecId.mainPreamble then some x else p.mainPre) ∧
      (p.add id o x).mainMeta = if id = SecId.mainMeta then some x else p.mainMeta := by
  by_cases h : id ∈ SecId.legal
  · rcases mem_legal.1 h with rfl | rfl | rfl | rfl | rfl | rfl | rfl | rfl | rfl <;> exact ⟨rfl, rfl⟩
  · rw [add_other p o x h, if_neg (fun e => h (by rw [e]; decide)), if_neg (fun e => h (by rw [e]; decide))]
    exact ⟨rfl, rfl⟩

theorem partOf_main_none (env : Env) (cfg : Config) (ss : List Sec) : ∀ c : Ctx,
    ((∀ s ∈ ss, s.id ≠ SecId.mainPreamble) → (partOf env cfg c ss).mainPre = none) ∧
    ((∀ s ∈ ss, s.id ≠ SecId.mainMeta) → (partOf env cfg c ss).mainMeta = none) := by
  induction ss with
  | nil => intro _; exact ⟨fun _ => rfl, fun _ => rfl⟩
  | cons s ss ih =>
    intro c
    simp only [List.forall_mem_cons, partOf, (add_main_get ..).1, (add_main_get ..).2]
    constructor
    · intro h
      rw [if_neg h.1]
      exact (ih _).1 h.2
    · intro h
      rw [if_neg h.1]
      exact (ih _).2 h.2

/-- position of an id in the order main sections, change sections, file sections -/
def ord (x : SecId) : Nat :=
  if x = SecId.main then 0 else if x = SecId.mainPreamble then 1 else if x = SecId.mainMeta then 2
  else if x = SecId.change then 3 else if x = SecId.changePreamble then 4
  else if x = SecId.changeMeta then 5 else if x = SecId.file then 6 else if x = SecId.fileMeta then 7
  else 8

/-- after section `x`, the rest of a well-formed document fills none of these slots: a content slot is still to be
filled only while `x` stands before its section in the order of `ord`, so each bound is the `ord` of the slot's own
id (1 `#.preamble`, 2 `#.meta`, 4 `#..preamble`, 5 `#..meta`, 7 `#...meta`, 8 `#...diff`) -/
structure Pend (x : SecId) (p : Part) : Prop where
  mainPre : 1 ≤ ord x → p.mainPre = none
  mainMeta : 2 ≤ ord x → p.mainMeta = none
  changePre : 4 ≤ ord x → p.changePre = none
  changeMeta : 5 ≤ ord x → p.changeMeta = none
  fileMeta : 7 ≤ ord x → p.fileMeta = none
  fileDiff : 8 ≤ ord x → p.fileDiff = none

theorem Pend.mono {x y : SecId} {p : Part} (h : Pend y p) (hxy : ord x ≤ ord y) : Pend x p :=
  ⟨fun k => h.mainPre (Nat.le_trans k hxy), fun k => h.mainMeta (Nat.le_trans k hxy),
    fun k => h.changePre (Nat.le_trans k hxy), fun k => h.changeMeta (Nat.le_trans k hxy),
    fun k => h.fileMeta (Nat.le_trans k hxy), fun k => h.fileDiff (Nat.le_trans k hxy)⟩

/-- a content section `y` is reached by forward edges only (going back passes a container header): it
comes after `x`, so the slot it fills is not asked for and the others are empty by `Pend.mono`.  A
container header clears the slots after it; those before it are empty whatever `x` is. -/
theorem pend_step {x y : SecId} (hy : y ∈ validNext x) {p : Part} {o : DOpts} {sx : ContentSec}
    (ih : Pend y p) : Pend x (p.add y o sx) := by
  have hf : y ∈ contentSections → ord x < ord y :=
    forall_validNext (P := fun x y => y ∈ contentSections → ord x < ord y) (by decide) hy
  have fwd := fun hc => ih.mono (Nat.le_of_lt (hf hc))
  rcases mem_legal.1 (validNext_legal hy) with rfl | rfl | rfl | rfl | rfl | rfl | rfl | rfl | rfl
  · exact absurd hy (main_not_mem_validNext x)
  · exact { fwd (by decide) with mainPre := fun h => absurd (hf (by decide)) (Nat.not_lt.mpr h) }
  · exact { fwd (by decide) with mainMeta := fun h => absurd (hf (by decide)) (Nat.not_lt.mpr h) }
  · exact ⟨fun _ => ih.mainPre (by decide), fun _ => ih.mainMeta (by decide), fun _ => rfl,
      fun _ => rfl, fun _ => rfl, fun _ => rfl⟩
  · exact { fwd (by decide) with changePre := fun h => absurd (hf (by decide)) (Nat.not_lt.mpr h) }
  · exact { fwd (by decide) with changeMeta := fun h => absurd (hf (by decide)) (Nat.not_lt.mpr h) }
  · exact ⟨fun _ => ih.mainPre (by decide), fun _ => ih.mainMeta (by decide),
      fun _ => ih.changePre (by decide), fun _ => ih.changeMeta (by decide), fun _ => rfl, fun _ => rfl⟩
  · exact { fwd (by decide) with fileMeta := fun h => absurd (hf (by decide)) (Nat.not_lt.mpr h) }
  · exact { fwd (by decide) with fileDiff := fun h => absurd (hf (by decide)) (Nat.not_lt.mpr h) }

theorem pend_nil {x : SecId} : Pend x {} := ⟨fun _ => rfl, fun _ => rfl, fun _ => rfl, fun _ => rfl,
  fun _ => rfl, fun _ => rfl⟩

theorem pend {env : Env} {cfg : Config} {ss : List Sec} : ∀ {c : Ctx} {x : SecId}, c.prev = some x →
    Hier env cfg c ss → Pend x (partOf env cfg c ss) := by
  induction ss with
  | nil => intro c x _ _; exact pend_nil
  | cons s ss ih =>
    intro c x hx h
    have hy : s.id ∈ validNext x := by have := h.1; rwa [hx] at this
    exact pend_step hy (ih (next_prev env cfg c s) h.2)

section Record
variable {env : Env} {cfg : Config} {ls : LoadSt} {c : Ctx} {s : Sec}

theorem loadRecord_main (hid : s.id = SecId.main) :
    loadRecord ls (recOf env cfg c s) =
      .ok { ls with tree := { ls.tree with opts := optsToPy (optsOf s) } } := by
  unfold loadRecord recOf
  simp only [hid]
  rfl

theorem loadRecord_pre (hid : s.id = SecId.mainPreamble ∨ s.id = SecId.changePreamble)
    (hl : (effEnc c s).isSome = true) :
    loadRecord ls (recOf env cfg c s) = place .preamble ls (secOf env cfg c s) := by
  obtain ⟨e, he⟩ := Option.isSome_iff_exists.mp hl
  obtain ⟨hp, hc⟩ := flags_pre hid
  have hb : bodyOf env cfg c s = .text (decoded env e (rawText env cfg c s)) := by
    simp [bodyOf, hc, hp, he]
  have hn : (recOf env cfg c s).sec.name = .preamble := by
    rcases hid with h | h <;> rw [recOf, h] <;> rfl
  rw [loadRecord_text hn hb]
  simp only [secOf, kindOf, hb, hp, if_true, contentVal]
  rfl

theorem loadRecord_pre_none (hid : s.id = SecId.mainPreamble ∨ s.id = SecId.changePreamble)
    (hl : effEnc c s = none) :
    loadRecord ls (recOf env cfg c s) = .error .typeError := by
  obtain ⟨hp, hc⟩ := flags_pre hid
  have hb : bodyOf env cfg c s = .textBytes (rawText env cfg c s) := by
    simp [bodyOf, hc, hp, hl]
  unfold loadRecord recOf
  simp only [hb]
  rcases hid with h | h <;> rw [h] <;> rfl

theorem loadRecord_meta (hid : s.id = SecId.mainMeta ∨ s.id = SecId.changeMeta ∨ s.id = SecId.fileMeta) :
    loadRecord ls (recOf env cfg c s) = place .metadata ls (secOf env cfg c s) := by
  obtain ⟨hp, hm, hc⟩ := flags_meta hid
  have hb : bodyOf env cfg c s = .metadata ((jsonOf env cfg c s).getD .null) := by
    simp [bodyOf, hc, hp, hm]
  have hn : (recOf env cfg c s).sec.name = .metadata := by
    rcases hid with h | h | h <;> rw [recOf, h] <;> rfl
  rw [loadRecord_metadata hn hb]
  simp only [secOf, kindOf, hb, hp, hm, if_true, contentVal]
  rfl

theorem loadRecord_fileDiff (hid : s.id = SecId.fileDiff) :
    loadRecord ls (recOf env cfg c s) = place .diff ls (secOf env cfg c s) := by
  obtain ⟨hp, hm, hc⟩ := flags_diff hid
  have hb : bodyOf env cfg c s = .diff s.content := by
    simp [bodyOf, hc, hp, hm]
  have hn : (recOf env cfg c s).sec.name = .diff := by
    rw [recOf, hid]
    rfl
  rw [loadRecord_diff hn hb]
  simp only [secOf, kindOf, hb, hp, hm, contentVal]
  rfl

/-- with distinct keys, an acceptable container header has at most the `encoding` option, and the
loader stores it as written -/
theorem containerOpts_ok (hk : containerOk s = true) (hd : (s.opts.map (·.1)).Nodup) :
    containerOpts (optsOf s) = .ok (optsToPy (optsOf s)) := by
  unfold containerOk at hk
  unfold optsOf
  cases hs : s.opts with
  | nil => rfl
  | cons p rest =>
    rw [hs] at hk hd
    simp only [List.all_cons, Bool.and_eq_true, beq_iff_eq] at hk
    obtain ⟨⟨hp1, hp2⟩, hrest⟩ := hk
    cases rest with
    | nil =>
      obtain ⟨k, v⟩ := p
      simp only at hp1 hp2
      subst hp1
      cases hv : Header.convert v with
      | int n => rw [hv] at hp2; cases hp2
      | str w =>
        simp only [List.map_cons, List.map_nil, hv]
        rfl
    | cons q rest' =>
      exfalso
      simp only [List.all_cons, Bool.and_eq_true, beq_iff_eq] at hrest
      simp only [List.map_cons, List.nodup_cons, List.mem_cons] at hd
      exact hd.1 (.inl (hp1.trans hrest.1.1.symm))

theorem containerOpts_bad (hk : containerOk s = false) : containerOpts (optsOf s) = .error .library := by
  unfold containerOk at hk
  unfold containerOpts optsOf
  generalize ([] : DOpts) = acc
  generalize s.opts = l at hk ⊢
  induction l generalizing acc with
  | nil => simp at hk
  | cons p rest ih =>
    rw [List.map_cons, List.foldlM_cons]
    simp only [List.all_cons, Bool.and_eq_false_iff] at hk
    by_cases h1 : p.1 = b!"encoding"
    · cases hv : Header.convert p.2 with
      | int n =>
        simp only [h1, if_true]
        rfl
      | str w =>
        simp only [h1, if_true]
        exact ih _ (hk.resolve_left (by simp [h1, hv, isStr]))
    · simp only [h1, if_false]
      rfl

theorem loadRecord_change (hid : s.id = SecId.change) :
    loadRecord ls (recOf env cfg c s) = containerOpts (optsOf s) >>= fun o =>
      .ok { tree := { ls.tree with changes := ls.tree.changes ++ [{ newChange with opts := o }] },
            cur := .change } := by
  unfold loadRecord recOf
  simp only [hid]
  rfl

theorem loadRecord_file (hid : s.id = SecId.file) :
    loadRecord ls (recOf env cfg c s) = containerOpts (optsOf s) >>= fun o =>
      .ok { tree := updLastChange ls.tree (fun ch => { ch with files := ch.files ++ [{ newFile with opts := o }] }),
            cur := .file } := by
  unfold loadRecord recOf
  simp only [hid]
  rfl

theorem loadRecord_container_bad (hid : s.id = SecId.change ∨ s.id = SecId.file) (hk : containerOk s = false) :
    loadRecord ls (recOf env cfg c s) = .error .library := by
  rcases hid with h | h
  · rw [loadRecord_change h, containerOpts_bad hk]
    rfl
  · rw [loadRecord_file h, containerOpts_bad hk]
    rfl

end Record

/-- the tree when the rest of the document contributes `P` -/
def _root_.Diffx.Dom.Z.close : Z → Part → Tree
  | .atMain o p m, P => ⟨o, P.mainPre.getD p, P.mainMeta.getD m, P.changes⟩
  | .inChange o p m done co cp cm, P =>
    ⟨o, p, m, done ++ [⟨co, P.changePre.getD cp, P.changeMeta.getD cm, P.files⟩] ++ P.changes⟩
  | .inFile o p m done co cp cm fs fo fm fd, P =>
    ⟨o, p, m, done ++ [⟨co, cp, cm, fs ++ [⟨fo, P.fileMeta.getD fm, P.fileDiff.getD fd⟩] ++ P.files⟩] ++
      P.changes⟩

theorem close_empty (z : Z) : z.close {} = z.tree := by
  cases z <;> simp [Z.close, Z.tree]

/-- the sections that may come next while the loader is in state `z` -/
inductive Edge : Z → SecId → Prop
  | mainPre (o p m) : Edge (.atMain o p m) SecId.mainPreamble
  | mainMeta (o p m) : Edge (.atMain o p m) SecId.mainMeta
  | mainChange (o p m) : Edge (.atMain o p m) SecId.change
  | changePre (o p m done co cp cm) : Edge (.inChange o p m done co cp cm) SecId.changePreamble
  | changeMeta (o p m done co cp cm) : Edge (.inChange o p m done co cp cm) SecId.changeMeta
  | changeFile (o p m done co cp cm) : Edge (.inChange o p m done co cp cm) SecId.file
  | changeChange (o p m done co cp cm) : Edge (.inChange o p m done co cp cm) SecId.change
  | fileMeta (o p m done co cp cm fs fo fm fd) : Edge (.inFile o p m done co cp cm fs fo fm fd) SecId.fileMeta
  | fileDiff (o p m done co cp cm fs fo fm fd) : Edge (.inFile o p m done co cp cm fs fo fm fd) SecId.fileDiff
  | fileFile (o p m done co cp cm fs fo fm fd) : Edge (.inFile o p m done co cp cm fs fo fm fd) SecId.file
  | fileChange (o p m done co cp cm fs fo fm fd) : Edge (.inFile o p m done co cp cm fs fo fm fd) SecId.change

theorem edge {z : Z} {x y : SecId} (hx : x ∈ z.phase) (hy : y ∈ validNext x) : Edge z y := by
  cases z with
  | atMain o p m =>
    have : ∀ x ∈ [SecId.main, SecId.mainPreamble, SecId.mainMeta], ∀ y ∈ validNext x,
        y = SecId.mainPreamble ∨ y = SecId.mainMeta ∨ y = SecId.change := by decide
    rcases this x hx y hy with rfl | rfl | rfl <;> constructor
  | inChange o p m done co cp cm =>
    have : ∀ x ∈ [SecId.change, SecId.changePreamble, SecId.changeMeta], ∀ y ∈ validNext x,
        y = SecId.changePreamble ∨ y = SecId.changeMeta ∨ y = SecId.file ∨ y = SecId.change := by decide
    rcases this x hx y hy with rfl | rfl | rfl | rfl <;> constructor
  | inFile o p m done co cp cm fs fo fm fd =>
    have : ∀ x ∈ [SecId.file, SecId.fileMeta, SecId.fileDiff], ∀ y ∈ validNext x,
        y = SecId.fileMeta ∨ y = SecId.fileDiff ∨ y = SecId.file ∨ y = SecId.change := by decide
    rcases this x hx y hy with rfl | rfl | rfl | rfl <;> constructor

theorem step_phase {z : Z} {y : SecId} (he : Edge z y) {o' : DOpts} {sx : ContentSec} :
    y ∈ (z.step y o' sx).phase := by
  cases he <;> simp +decide [Z.step, Z.phase]

theorem close_step {z : Z} {y : SecId} (he : Edge z y) {P : Part} (hP : Pend y P) {o' : DOpts}
    {sx : ContentSec} : z.close (P.add y o' sx) = (z.step y o' sx).close P := by
  cases he
  · simp +decide [Z.close, Z.step, add_mainPre, hP.mainPre (by decide)]
  · simp +decide [Z.close, Z.step, add_mainMeta, hP.mainMeta (by decide)]
  · simp +decide [Z.close, Z.step, add_change, hP.mainPre (by decide), hP.mainMeta (by decide)]
  · simp +decide [Z.close, Z.step, add_changePre, hP.changePre (by decide)]
  · simp +decide [Z.close, Z.step, add_changeMeta, hP.changeMeta (by decide)]
  · simp +decide [Z.close, Z.step, add_file, hP.changePre (by decide), hP.changeMeta (by decide)]
  · simp +decide [Z.close, Z.step, add_change]
  · simp +decide [Z.close, Z.step, add_fileMeta, hP.fileMeta (by decide)]
  · simp +decide [Z.close, Z.step, add_fileDiff, hP.fileDiff (by decide)]
  · simp +decide [Z.close, Z.step, add_file]
  · simp +decide [Z.close, Z.step, add_change]

section Load
variable {env : Env} {cfg : Config}

theorem secLoadable_pre {c : Ctx} {s : Sec} (hid : s.id = SecId.mainPreamble ∨ s.id = SecId.changePreamble) :
    secLoadable c s = (effEnc c s).isSome := by
  unfold secLoadable
  rcases hid with h | h <;> simp +decide [h, Sec.isPreamble]

theorem secLoadable_container {c : Ctx} {s : Sec} (hid : s.id = SecId.change ∨ s.id = SecId.file) :
    secLoadable c s = containerOk s := by
  unfold secLoadable
  rw [if_pos hid]

theorem loadRecord_step {z : Z} {c : Ctx} {s : Sec} (he : Edge z s.id)
    (hl : secLoadable c s = true) (hd : (s.opts.map (·.1)).Nodup) :
    loadRecord z.st (recOf env cfg c s) =
      .ok (z.step s.id (optsToPy (optsOf s)) (secOf env cfg c s)).st := by
  have hcont : s.id = SecId.change ∨ s.id = SecId.file → containerOpts (optsOf s) = .ok (optsToPy (optsOf s)) :=
    fun hid => containerOpts_ok (by rwa [secLoadable_container hid] at hl) hd
  have hpre : s.id = SecId.mainPreamble ∨ s.id = SecId.changePreamble → (effEnc c s).isSome = true :=
    fun hid => by rwa [secLoadable_pre hid] at hl
  generalize h : s.id = y at he ⊢
  -- on a content id `Z.step` is `Z.put` (by evaluation), which is what `place` does (`place_zip`)
  cases he
  case mainPre =>
    rw [loadRecord_pre (.inl h) (hpre (.inl h))]
    exact place_zip rfl
  case changePre =>
    rw [loadRecord_pre (.inr h) (hpre (.inr h))]
    exact place_zip rfl
  case mainMeta =>
    rw [loadRecord_meta (.inl h)]
    exact place_zip rfl
  case changeMeta =>
    rw [loadRecord_meta (.inr (.inl h))]
    exact place_zip rfl
  case fileMeta =>
    rw [loadRecord_meta (.inr (.inr h))]
    exact place_zip rfl
  case fileDiff =>
    rw [loadRecord_fileDiff h]
    exact place_zip rfl
  case mainChange | changeChange | fileChange =>
    rw [loadRecord_change h, hcont (.inl h)]
    rfl
  case changeFile | fileFile =>
    rw [loadRecord_file h, hcont (.inr h)]
    exact congrArg (fun t => Except.ok (LoadSt.mk t _)) (updLastChange_snoc ..)

/-- `Z.step` along the sections of a document, each with the section object `secOf` makes of it -/
def zipAll (env : Env) (cfg : Config) : Z → Ctx → List Sec → Z
  | z, _, [] => z
  | z, c, s :: ss =>
    zipAll env cfg (z.step s.id (optsToPy (optsOf s)) (secOf env cfg c s)) (c.next env cfg s) ss

/-- the zipper `z` is where the loader stands when the reader is in context `c`: the section read
last is one after which the loader is in a state of the form `z` -/
def At (z : Z) (c : Ctx) : Prop := ∃ x, c.prev = some x ∧ x ∈ z.phase

theorem At.edge {z : Z} {c : Ctx} (h : At z c) {s : Sec} {ss : List Sec} (hh : Hier env cfg c (s :: ss)) :
    Edge z s.id := by
  obtain ⟨x, hx, hz⟩ := h
  have hy := hh.1
  rw [hx] at hy
  exact Foreign.edge hz hy

theorem At.step {z : Z} {c : Ctx} {s : Sec} (he : Edge z s.id) {o' : DOpts} {sx : ContentSec} :
    At (z.step s.id o' sx) (c.next env cfg s) :=
  ⟨s.id, next_prev env cfg c s, step_phase he⟩

theorem close_zip (rest : List Sec) (pre : List Sec) : ∀ {z : Z} {c : Ctx}, At z c →
    Hier env cfg c (pre ++ rest) →
    At (zipAll env cfg z c pre) (ctxAfter env cfg c pre) ∧
      z.close (partOf env cfg c (pre ++ rest)) =
        (zipAll env cfg z c pre).close (partOf env cfg (ctxAfter env cfg c pre) rest) := by
  induction pre with
  | nil => intro z c hat _; exact ⟨hat, rfl⟩
  | cons s pre ih =>
    intro z c hat h
    have he := hat.edge h
    have hP := pend (ss := pre ++ rest) (next_prev env cfg c s) h.2
    obtain ⟨h1, h2⟩ := ih (At.step he (o' := optsToPy (optsOf s)) (sx := secOf env cfg c s)) h.2
    refine ⟨h1, ?_⟩
    show z.close ((partOf env cfg (c.next env cfg s) (pre ++ rest)).add _ _ _) = _
    rw [close_step he hP]
    exact h2

theorem fold_zip (rest : List Sec) {pre : List Sec} : ∀ {z : Z} {c : Ctx}, At z c →
    WFFrom env cfg c (pre ++ rest) → loadableFrom env cfg c pre = true →
    fold z.st (readFrom env cfg c (pre ++ rest)) =
      fold (zipAll env cfg z c pre).st (readFrom env cfg (ctxAfter env cfg c pre) rest) := by
  induction pre with
  | nil => intro z c _ _ _; rfl
  | cons s pre ih =>
    intro z c hat wf hl
    have he := hat.edge (hier_of_wf wf)
    simp only [loadableFrom, Bool.and_eq_true] at hl
    show List.foldlM loadRecord z.st (recOf env cfg c s :: readFrom env cfg (c.next env cfg s) _) = _
    rw [List.foldlM_cons, loadRecord_step he hl.1 wf.1.distinct]
    exact ih (At.step he) wf.2 hl.2

/-- the zipper after the main header -/
def z0 (s0 : Sec) : Z := .atMain (optsToPy (optsOf s0)) newPreamble newMeta

theorem treeOfDoc_cons {wv : Text} {s0 : Sec} {rest : List Sec} (h0 : s0.id = SecId.main) :
    treeOfDoc env cfg wv (s0 :: rest) =
      (z0 s0).close (partOf env cfg (Ctx.start.next env cfg s0) rest) := by
  unfold treeOfDoc
  simp only [partOf, h0, add_main]
  rfl

theorem at_main {s0 : Sec} (h0 : s0.id = SecId.main) : At (z0 s0) (Ctx.start.next env cfg s0) :=
  ⟨s0.id, next_prev env cfg _ s0, by rw [h0]; simp [z0, Z.phase]⟩

theorem fold_reading {wv : Text} {s0 : Sec} {rest : List Sec} (h0 : s0.id = SecId.main) :
    fold ⟨newTree cfg.defaultEncoding wv, .main⟩ (reading env cfg (s0 :: rest)) =
      fold (z0 s0).st (readFrom env cfg (Ctx.start.next env cfg s0) rest) := by
  show List.foldlM loadRecord _ (recOf env cfg Ctx.start s0 :: readFrom env cfg _ rest) = _
  rw [List.foldlM_cons, loadRecord_main h0]
  rfl

theorem treeOfDoc_zip {wv : Text} {s0 : Sec} {rest : List Sec} (h0 : s0.id = SecId.main)
    (h : Hier env cfg (Ctx.start.next env cfg s0) rest) :
    treeOfDoc env cfg wv (s0 :: rest) = (zipAll env cfg (z0 s0) (Ctx.start.next env cfg s0) rest).tree := by
  rw [treeOfDoc_cons h0]
  have := (close_zip [] rest (at_main h0) (by rwa [List.append_nil])).2
  rw [List.append_nil] at this
  rw [this]
  exact close_empty _

theorem foreign_fail {wv : Text} {crlf : Bool} {pre : List Sec} {bad : Sec} {post : List Sec} {e : LoadErr}
    (hchunk : 0 < cfg.chunk) (wf : WF env cfg (pre ++ bad :: post))
    (hl : loadableFrom env cfg Ctx.start pre = true) (hne : bad.id ≠ SecId.main)
    (hbad : ∀ ls, loadRecord ls (recOf env cfg (ctxAfter env cfg Ctx.start pre) bad) = .error e) :
    fromBytes env cfg wv (render crlf (pre ++ bad :: post)) = .error e := by
  obtain ⟨s0, rest, hdoc, h0⟩ := wf_head wf
  cases pre with
  | nil =>
    injection hdoc with h1 _
    exact absurd (h1 ▸ h0) hne
  | cons s pre' =>
    injection hdoc with h1 h2
    subst h1
    unfold fromBytes
    rw [C03.C03_file env cfg cfg.chunk hchunk crlf _ wf]
    have hfold : fold ⟨newTree cfg.defaultEncoding wv, .main⟩ (reading env cfg (s :: pre' ++ bad :: post)) =
        .error e :=
      (fold_reading h0).trans <|
        (fold_zip (bad :: post) (at_main h0) wf.sections.2 (Bool.and_eq_true_iff.mp hl).2).trans <|
          (List.foldlM_cons ..).trans (congrArg (· >>= _) (hbad _))
    simp only [hfold]

end Load

section Kinds

/-- `TreeOk` for a part: every waiting section and every finished file / change sits in the slot of its class -/
structure PartOk (P : Part) : Prop where
  fileMeta : ∀ x ∈ P.fileMeta, x.kind = .metadata
  fileDiff : ∀ x ∈ P.fileDiff, x.kind = .diff
  files : P.files.all fileOk = true
  changePre : ∀ x ∈ P.changePre, x.kind = .preamble
  changeMeta : ∀ x ∈ P.changeMeta, x.kind = .metadata
  changes : P.changes.all changeOk = true
  mainPre : ∀ x ∈ P.mainPre, x.kind = .preamble
  mainMeta : ∀ x ∈ P.mainMeta, x.kind = .metadata

theorem none_all {α} {P : α → Prop} : ∀ x ∈ (none : Option α), P x := fun _ h => by cases h

theorem getD_kind {o : Option ContentSec} {d : ContentSec} {k : Kind} (ho : ∀ x ∈ o, x.kind = k)
    (hd : d.kind = k) : (o.getD d).kind = k := by
  cases o with
  | none => exact hd
  | some x => exact ho x rfl

theorem partOk_add {env : Env} {cfg : Config} {P : Part} {c : Ctx} {s : Sec} {o : DOpts} (h : PartOk P) :
    PartOk (P.add s.id o (secOf env cfg c s)) := by
  -- the class of a section object depends on the id only
  have hk : ∀ {id : SecId} {k : Kind}, s.id = id → kindOf ⟨id, [], [], []⟩ = k →
      ∀ x ∈ some (secOf env cfg c s), x.kind = k := by
    intro id k e hk x hx
    cases hx
    subst e
    exact hk
  by_cases hl : s.id ∈ SecId.legal
  · rcases mem_legal.1 hl with e | e | e | e | e | e | e | e | e <;> rw [e]
    · exact { h with }
    · exact { h with mainPre := hk e rfl }
    · exact { h with mainMeta := hk e rfl }
    · exact { h with
        fileMeta := none_all, fileDiff := none_all, files := rfl, changePre := none_all
        changeMeta := none_all
        changes := by
          simp only [add_change, List.all_cons, changeOk, Bool.and_eq_true, beq_iff_eq]
          exact ⟨⟨⟨getD_kind h.changePre rfl, getD_kind h.changeMeta rfl⟩, h.files⟩, h.changes⟩ }
    · exact { h with changePre := hk e rfl }
    · exact { h with changeMeta := hk e rfl }
    · exact { h with
        fileMeta := none_all, fileDiff := none_all
        files := by
          simp only [add_file, List.all_cons, fileOk, Bool.and_eq_true, beq_iff_eq]
          exact ⟨⟨getD_kind h.fileMeta rfl, getD_kind h.fileDiff rfl⟩, h.files⟩ }
    · exact { h with fileMeta := hk e rfl }
    · exact { h with fileDiff := hk e rfl }
  · rw [add_other P o _ hl]
    exact h

theorem partOk (env : Env) (cfg : Config) (ss : List Sec) : ∀ c, PartOk (partOf env cfg c ss) := by
  induction ss with
  | nil =>
    intro _
    exact ⟨none_all, none_all, rfl, none_all, none_all, rfl, none_all, none_all⟩
  | cons s ss ih => intro c; exact partOk_add (ih _)

end Kinds

section Shape
variable {env : Env} {cfg : Config}

/-- a section of the tree by its id and its position: change `i`, file `j` of that change -/
def slotOf (t : Tree) (id : SecId) (i j : Nat) : Option ContentSec :=
  if id = SecId.mainPreamble then some t.preamble
  else if id = SecId.mainMeta then some t.metaSec
  else if id = SecId.changePreamble then t.changes[i]?.map (·.preamble)
  else if id = SecId.changeMeta then t.changes[i]?.map (·.metaSec)
  else if id = SecId.fileMeta then (t.changes[i]?.bind (·.files[j]?)).map (·.metaSec)
  else if id = SecId.fileDiff then (t.changes[i]?.bind (·.files[j]?)).map (·.diff)
  else none

/-- the index of the change that is open after the sections `pre` (`shapeOf`, Lemmas/Dom.lean: for
every `.change` id, in order, the number of `..file` ids up to the next `.change` id); the subtraction is that of
`Nat`: `0` while no change is open, where `slotOf` does not look at it -/
def changeIndex (pre : List Sec) : Nat := (shapeOf (pre.map (·.id))).length - 1
/-- the index, in that change, of the file that is open after the sections `pre` -/
def fileIndex (pre : List Sec) : Nat := (shapeOf (pre.map (·.id))).getLast?.getD 0 - 1

theorem step_shape {z : Z} {y : SecId} (he : Edge z y) {o' : DOpts} {sx : ContentSec} :
    treeShape (z.step y o' sx).tree = shapeStep (treeShape z.tree) y := by
  -- by evaluation, edge by edge: a content id changes neither side, `.change` appends a `0` to both, `..file`
  -- adds one to the last count (`bumpLast_append`)
  cases he <;>
    simp +decide [Z.step, Z.tree, treeShape, shapeStep, SecId.mainPreamble, SecId.mainMeta, SecId.change,
      SecId.changePreamble, SecId.changeMeta, SecId.file, SecId.fileMeta, SecId.fileDiff, bumpLast_append]

theorem zip_shape {ss : List Sec} : ∀ {z : Z} {c : Ctx}, At z c → Hier env cfg c ss →
    treeShape (zipAll env cfg z c ss).tree = (ss.map (·.id)).foldl shapeStep (treeShape z.tree) := by
  induction ss with
  | nil => intro _ _ _ _; rfl
  | cons s ss ih =>
    intro z c hat h
    have he := hat.edge h
    show treeShape (zipAll env cfg (z.step _ _ _) _ ss).tree = _
    rw [ih (At.step he) h.2, step_shape he]
    rfl

theorem treeOfDoc_shape {wv : Text} {doc : List Sec} (h : Hier env cfg Ctx.start doc) :
    (treeOfDoc env cfg wv doc).changes.map (·.files.length) = shapeOf (doc.map (·.id)) := by
  cases doc with
  | nil => rfl
  | cons s0 rest =>
    have h0 := main_of_allowed_start h.1
    rw [treeOfDoc_zip h0 h.2]
    have := zip_shape (at_main h0) h.2
    simp only [treeShape] at this
    rw [this, List.map_cons, h0]
    rfl

theorem getElem?_mid {α} (done : List α) (c : α) (rest : List α) :
    (done ++ [c] ++ rest)[done.length]? = some c := by simp

theorem content_ids {y : SecId} (h : y ∈ contentSections) :
    y = SecId.mainPreamble ∨ y = SecId.changePreamble ∨ y = SecId.mainMeta ∨ y = SecId.changeMeta ∨
      y = SecId.fileMeta ∨ y = SecId.fileDiff := by
  simpa [contentSections, preambleSections, metaSections] using h

theorem shapeStep_content (acc : List Nat) {y : SecId} (h : y ∈ contentSections) : shapeStep acc y = acc := by
  rcases content_ids h with rfl | rfl | rfl | rfl | rfl | rfl <;> rfl

theorem slot_step {z : Z} {y : SecId} (he : Edge z y) (hc : y ∈ contentSections) {P : Part}
    (hP : Pend y P) {o' : DOpts} {sx : ContentSec} :
    slotOf ((z.step y o' sx).close P) y ((treeShape z.tree).length - 1)
      ((treeShape z.tree).getLast?.getD 0 - 1) = some sx := by
  cases he
  case mainChange | changeFile | changeChange | fileFile | fileChange => exact absurd hc (by decide)
  · simp +decide [Z.step, Z.close, slotOf, hP.mainPre (by decide)]
  · simp +decide [Z.step, Z.close, slotOf, hP.mainMeta (by decide)]
  · simp +decide [Z.step, Z.close, Z.tree, treeShape, slotOf, hP.changePre (by decide)]
  · simp +decide [Z.step, Z.close, Z.tree, treeShape, slotOf, hP.changeMeta (by decide)]
  · simp +decide [Z.step, Z.close, Z.tree, treeShape, slotOf, hP.fileMeta (by decide)]
  · simp +decide [Z.step, Z.close, Z.tree, treeShape, slotOf, hP.fileDiff (by decide)]

/-- what `contents_at` and `container_at` share: at any section `s` of a document the tree is the zipper after `s`,
closed with what the rest contributes, and the ids before `s` describe the shape of the zipper before `s` -/
theorem doc_at (wv : Text) {pre : List Sec} {s : Sec} {post : List Sec}
    (h : Hier env cfg Ctx.start (pre ++ s :: post)) (hne : s.id ≠ SecId.main) :
    ∃ z : Z, Edge z s.id ∧
      Pend s.id (partOf env cfg ((ctxAfter env cfg Ctx.start pre).next env cfg s) post) ∧
      shapeOf (pre.map (·.id)) = treeShape z.tree ∧
      treeOfDoc env cfg wv (pre ++ s :: post) =
        (z.step s.id (optsToPy (optsOf s)) (secOf env cfg (ctxAfter env cfg Ctx.start pre) s)).close
          (partOf env cfg ((ctxAfter env cfg Ctx.start pre).next env cfg s) post) := by
  cases pre with
  | nil => exact absurd (main_of_allowed_start h.1) hne
  | cons s0 pre' =>
    have h0 := main_of_allowed_start h.1
    obtain ⟨hat, hclose⟩ := close_zip (s :: post) pre' (at_main h0) h.2
    have htail := hier_append h.2
    have he := hat.edge htail
    have hP := pend (next_prev env cfg _ s) htail.2
    refine ⟨_, he, hP, ?_, ?_⟩
    · rw [zip_shape (at_main h0) (hier_prefix h.2), List.map_cons, h0]
      rfl
    · show treeOfDoc env cfg wv (s0 :: (pre' ++ s :: post)) = _
      rw [treeOfDoc_cons h0, hclose]
      exact close_step he hP

theorem contents_at {wv : Text} {pre : List Sec} {s : Sec} {post : List Sec}
    (h : Hier env cfg Ctx.start (pre ++ s :: post)) (hc : s.hasContent = true) :
    slotOf (treeOfDoc env cfg wv (pre ++ s :: post)) s.id (changeIndex pre) (fileIndex pre) =
      some (secOf env cfg (ctxAfter env cfg Ctx.start pre) s) := by
  have hcs : s.id ∈ contentSections := by simpa [Sec.hasContent] using hc
  obtain ⟨z, he, hP, hidx, htree⟩ := doc_at wv h fun e => absurd (e ▸ hcs) (by decide)
  rw [htree, changeIndex, fileIndex, hidx]
  exact slot_step he hcs hP

/-- the options of a container by its id and its position -/
def containerAt (t : Tree) (id : SecId) (i j : Nat) : Option DOpts :=
  if id = SecId.change then t.changes[i]?.map (·.opts)
  else if id = SecId.file then (t.changes[i]?.bind (·.files[j]?)).map (·.opts)
  else none

theorem open_step {z : Z} {y : SecId} (he : Edge z y) (hc : y = SecId.change ∨ y = SecId.file)
    {P : Part} {o' : DOpts} {sx : ContentSec} :
    containerAt ((z.step y o' sx).close P) y ((treeShape (z.step y o' sx).tree).length - 1)
      ((treeShape (z.step y o' sx).tree).getLast?.getD 0 - 1) = some o' := by
  cases he
  case mainChange | changeFile | changeChange | fileFile | fileChange =>
    simp +decide [Z.step, Z.close, Z.tree, treeShape, containerAt]
  all_goals exact absurd hc (by decide)

theorem container_at {wv : Text} {pre : List Sec} {s : Sec} {post : List Sec}
    (h : Hier env cfg Ctx.start (pre ++ s :: post)) (hc : s.id = SecId.change ∨ s.id = SecId.file) :
    containerAt (treeOfDoc env cfg wv (pre ++ s :: post)) s.id (changeIndex (pre ++ [s]))
      (fileIndex (pre ++ [s])) = some (optsToPy (optsOf s)) := by
  obtain ⟨z, he, hP, hidx, htree⟩ := doc_at wv h fun e => by rw [e] at hc; exact absurd hc (by decide)
  have hidx' : shapeOf ((pre ++ [s]).map (·.id)) =
      treeShape (z.step s.id (optsToPy (optsOf s)) (secOf env cfg (ctxAfter env cfg Ctx.start pre) s)).tree := by
    rw [step_shape he, ← hidx]
    simp only [shapeOf, List.map_cons, List.map_append, List.foldl_cons, List.foldl_append, List.map_nil,
      List.foldl_nil]
  rw [htree, changeIndex, fileIndex, hidx']
  exact open_step he hc

end Shape

end Diffx.Foreign
