import DiffxVerif.Lemmas.RunRoundTrip
import DiffxVerif.Lemmas.SpecFile
/-!
# The writer's output is the rendering of a well-formed specification document

The second way from the writer to the reader goes through the specification.  The document of a program
(`docFrom`) is defined by recursion over the calls from the data of the laws, as `RunRT.expectedRecords` is, and
no byte of the writer's output is inspected.  The accepted calls append exactly its rendering
(`runFrom_out_render`); each of its sections is well-formed where it stands (`Spec.SecOk`), and the
specification reads it as the record the direct simulation expects (`step_conforms`, `conforms_from`).  `Inv`
relates the writer's state to the specification's reading context.  Its `stack` field is `RunRT.Mirrors st.stack
(SpecFile.stackOf c)` written out, where `RunRT.Related` has the reader's `encodings`, so what was proved of the two stacks for
the reader (`Mirrors.push`, `Mirrors.top`) and of the reader's stack for the context (`SpecFile.stack_container`,
`SpecFile.top_inherited`) composes here.  `SecOk` of a content section is assembled by `secOk_build` from what
`written_content` says of its header, whatever the kind, and the laws of the call.
-/

namespace Diffx.Conform
open Diffx Diffx.Writer Diffx.Header Diffx.Spec Diffx.RunRT

/-- the main header: `encoding`, `version=1.0` -/
def mainSec (enc : Name) : Sec :=
  { id := ⟨0, .diffx⟩, opts := C02.writtenPairs (mainOpts enc) }

/-- the section one call writes in writer state `st`: the id the hierarchy position gives, the
options the call hands to `_write_section_header` (those that are not `None`, in key order, values as
the bytes `%s` renders), no blank lines, and the prepared content bytes of the laws -/
def secOne (env : Env) (cfg : Config) (st : St) (c : Call) (L : CallLaws env cfg st c) : Sec :=
  match c, L with
  | .newChange enc, _ =>
    { id := ⟨1, .change⟩, opts := C02.writtenPairs [(b!"encoding", enc.map HVal.str)] }
  | .newFile enc, _ =>
    { id := ⟨2, .file⟩, opts := C02.writtenPairs [(b!"encoding", enc.map HVal.str)] }
  | .preamble (.str _) enc indent _ mime, L =>
    { id := ⟨st.level, .preamble⟩,
      opts := C02.writtenPairs
        (contentOpts [(b!"mimetype", mime.map HVal.str)] enc indent L.data.length true L.leOut),
      content := L.data }
  | .metadata (.dict _) enc fmt, L =>
    { id := ⟨st.level, .metadata⟩,
      opts := C02.writtenPairs
        (contentOpts [(b!"format", some (HVal.str fmt))] enc none L.tl.plain.length false L.leOut),
      content := L.tl.plain }
  | .diff (.bytes _) dtype enc _, L =>
    { id := ⟨st.level, .diff⟩,
      opts := C02.writtenPairs
        (contentOpts [(b!"type", dtype.map HVal.str)] enc none L.data.length true L.leOut),
      content := L.data }
  | _, _ => { id := secOf st c }

/-- the sections the calls `cs` write from writer state `st` on -/
def docFrom (env : Env) (cfg : Config) : (st : St) → (cs : List Call) → ProgramLawsFrom env cfg st cs → List Sec
  | _, [], _ => []
  | st, c :: cs, (L, Ls) => secOne env cfg st c L :: docFrom env cfg (step env cfg st c).1 cs Ls

/-- `secOne` is the section of `callSec`, for every call (the cases the writer rejects agree too) -/
theorem secOne_eq (env : Env) (cfg : Config) (st : St) (c : Call) (L : CallLaws env cfg st c) :
    secOne env cfg st c L =
      ⟨(callSec env cfg st c L).1, C02.writtenPairs (callSec env cfg st c L).2.1, [],
        (callSec env cfg st c L).2.2⟩ := by
  cases c with
  | newChange enc => rfl
  | newFile enc => rfl
  | preamble text enc indent le mime => cases text <;> rfl
  | metadata m enc fmt => cases m <;> rfl
  | diff content dtype enc le => cases content <;> rfl

theorem secOne_canonical (env : Env) (cfg : Config) (st : St) (c : Call) (L : CallLaws env cfg st c) :
    (secOne env cfg st c L).blank = [] ∧ ((secOne env cfg st c L).opts.map (·.1)).Pairwise (· ≤ ·) := by
  rw [secOne_eq]
  exact ⟨rfl, writtenPairs_sorted _⟩

theorem docFrom_canonical (env : Env) (cfg : Config) (cs : List Call) (st : St)
    (Ls : ProgramLawsFrom env cfg st cs) :
    ∀ s ∈ docFrom env cfg st cs Ls, s.blank = [] ∧ (s.opts.map (·.1)).Pairwise (· ≤ ·) := by
  induction cs generalizing st with
  | nil => intro s hs; cases hs
  | cons c cs ih =>
    obtain ⟨L, Ls'⟩ := Ls
    intro s hs
    simp only [docFrom, List.mem_cons] at hs
    rcases hs with rfl | hs
    · exact secOne_canonical env cfg st c L
    · exact ih _ Ls' s hs

theorem step_out {env : Env} {cfg : Config} {st : St} {c : Call} (hok : (step env cfg st c).2 = .ok)
    (L : CallLaws env cfg st c) :
    (step env cfg st c).1.out = st.out ++ renderSec false (secOne env cfg st c L) := by
  obtain ⟨header, _, _, hr, hstep⟩ := accepted hok L
  rw [hstep, secOne_eq, renderSec_written _ hr]

theorem runFrom_out_render {env : Env} {cfg : Config} {cs : List Call} {st : St}
    (hok : AllOk env cfg st cs) (Ls : ProgramLawsFrom env cfg st cs) :
    (runFrom env cfg st cs).out = st.out ++ render false (docFrom env cfg st cs Ls) := by
  induction cs generalizing st with
  | nil => simp [runFrom, docFrom, render]
  | cons c cs ih =>
    obtain ⟨L, Ls'⟩ := Ls
    have h := ih hok.2 Ls'
    show (runFrom env cfg (step env cfg st c).1 cs).out = _
    rw [h, step_out hok.1 L]
    simp only [docFrom, SpecFile.render_cons, List.append_assoc]

/-- **the writer state after some accepted calls and the specification's context after the sections
they wrote**: same previous section; the writer's `_stack` (above its bottom frame) is the
encoding stack the context determines (`SpecFile.stackOf`: main, change-or-main,
file-or-change-or-main); the stack depth is the depth of the open container.  `stack` is
`Mirrors st.stack (SpecFile.stackOf c)` written out, so that `Mirrors.push` and `SpecFile.stack_container` compose
(`Inv.container`) -/
structure Inv (st : St) (c : Ctx) : Prop where
  prev : ∃ p, st.prev = some p ∧ c.prev = some p
  stack : ∃ b s, st.stack = b :: s ∧ s ≠ [] ∧ SpecFile.stackOf c = none :: s.map encOpt
  depth : st.stack.length = SpecFile.depthOf c.prev + 2

theorem optConv_eq_encOpt (e : Option Bytes) (n : Option Name) (h : SpecFile.optConv e = encOpt n) :
    e = n.map Text.toAscii ∧ ∀ v ∈ e, convert v = .str v := by
  cases e with
  | none =>
    cases n with
    | none => exact ⟨rfl, by intro v hv; cases hv⟩
    | some m => cases h
  | some v =>
    cases n with
    | none => cases h
    | some m =>
      simp only [SpecFile.optConv, encOpt, Option.map_some, Option.some.injEq] at h
      have hv := convert_str_inj h
      refine ⟨by rw [hv]; rfl, ?_⟩
      intro w hw
      simp only [Option.mem_def, Option.some.injEq] at hw
      subst hw
      rw [h, hv]

theorem optConv_enc (enc : Option Name) (he : EncOk enc) :
    SpecFile.optConv (enc.map Text.toAscii) = encOpt enc := by
  cases enc with
  | none => rfl
  | some n =>
    simp only [SpecFile.optConv, encOpt, Option.map_some]
    rw [(he n rfl).str]

theorem Inv.level {st : St} {c : Ctx} (I : Inv st c) : st.level = SpecFile.depthOf c.prev + 1 := by
  have := I.depth
  unfold St.level
  omega

/-- the specification's inheritance rule gives the encoding the writer encoded a preamble / metadata section
with (`heff` is `TextLaws.heff`) -/
theorem effEnc_inherit {st : St} {c : Ctx} (I : Inv st c) {s : Sec} (hal : s.id ∈ allowedNext c.prev)
    (hcs : s.hasContent = true) (hnd : s.isDiff = false) {enc : Option Name} (he : EncOk enc)
    (hget : s.get b!"encoding" = enc.map Text.toAscii) {encName : Bytes}
    (heff : (if truthy enc then enc else st.curEncoding) = some (Text.ofAscii encName)) :
    effEnc c s = some encName ∧ convert encName = .str encName := by
  unfold effEnc
  rw [hget, hnd]
  rcases eff_cases he heff with rfl | ⟨rfl, hcur⟩
  · have := (he _ rfl).str
    rw [toAscii_ofAscii] at this
    refine ⟨?_, this⟩
    simp only [Option.map_some, toAscii_ofAscii]
  · have h1 := SpecFile.top_inherited hal hcs
    rw [Mirrors.top I.stack, ← St.curEncoding, hcur] at h1
    obtain ⟨h2, h3⟩ := optConv_eq_encOpt _ _ h1.symm
    simp only [Option.map_some, toAscii_ofAscii] at h2
    simp only [Option.map_none, Bool.false_eq_true, if_false]
    exact ⟨h2, h3 encName (by rw [h2]; rfl)⟩

theorem Inv.content {st : St} {c : Ctx} (I : Inv st c) (env : Env) (cfg : Config) (s : Sec)
    (hal : s.id ∈ allowedNext c.prev) (hcs : s.hasContent = true) (out' : Bytes) :
    Inv ⟨out', st.stack, some s.id⟩ (c.next env cfg s) := by
  obtain ⟨h1, h2⟩ := SpecFile.stack_content env cfg hal hcs
  refine ⟨⟨s.id, rfl, SpecFile.next_prev env cfg c s⟩, by rw [h1]; exact I.stack, ?_⟩
  rw [h2]
  exact I.depth

/-- `new_change` (`k = 0`) / `new_file` (`k = 1`): the writer's `_stack` update is the context update -/
theorem Inv.container {st : St} {c : Ctx} (I : Inv st c) (env : Env) (cfg : Config) (k : Nat) (name : SecName)
    (hkn : (k = 0 ∧ name = .change) ∨ (k = 1 ∧ name = .file)) (enc : Option Name) (he : EncOk enc)
    (s : Sec) (hid : s.id = ⟨k + 1, name⟩) (hget : s.get b!"encoding" = enc.map Text.toAscii)
    (hal : s.id ∈ allowedNext c.prev) (out' : Bytes) :
    Inv ⟨out', pushFrame st.stack (k + 2) enc, some s.id⟩ (c.next env cfg s) := by
  obtain ⟨hcs, -, -, hmain, -⟩ := container_kinds hkn
  rw [← hid] at hcs
  obtain ⟨hpush, hdep⟩ := SpecFile.stack_container env cfg hal hcs
  have hd := I.depth
  have hks : k + 2 ≤ st.stack.length := by
    rcases hkn with ⟨rfl, rfl⟩ | ⟨rfl, rfl⟩
    · omega
    · obtain ⟨_, hcase⟩ := (SpecFile.trans_facts hal).2.2.2 hcs
      rw [hid] at hcase
      rcases hcase with ⟨h, _⟩ | ⟨h, _⟩ | ⟨_, _, h⟩
      · exact absurd h (by decide)
      · exact absurd h (by decide)
      · omega
  obtain ⟨hS, hL⟩ := Mirrors.push I.stack hks (sec := ⟨k + 1, name⟩) rfl hmain he
  refine ⟨⟨s.id, rfl, SpecFile.next_prev env cfg c s⟩, ?_, by rw [hdep, hid]; exact hL⟩
  rw [← hpush, hget, optConv_enc enc he, hid, show SpecFile.depthOf c.prev = st.stack.length - 2 by omega]
  exact hS

theorem headerOk_written {c : Ctx} {sec : SecId} {opts : List (Bytes × Option HVal)} {header : Bytes} (data : Bytes)
    (hr : renderHeader sec opts = .ok header) (hal : sec ∈ allowedNext c.prev) (hnd : (opts.map (·.1)).Nodup)
    (hk : ∀ p ∈ opts, keyOk p.1 = true) :
    HeaderOk c ⟨sec, C02.writtenPairs opts, [], data⟩ where
  allowed := hal
  grammar := written_grammar hr hk
  distinct := writtenPairs_keys_nodup opts hnd
  blankOk := by intro l hl; cases hl

theorem secNewline_declared {env : Env} {cfg : Config} {s : Sec} {e : Option Bytes} {dos : Bool} {raw nl : Bytes}
    (hle : s.get b!"line_endings" = some (leKind dos).toAscii)
    (h1 : env.encode (codecName e) (nlText dos) = .ok raw)
    (h2 : stripBom env cfg raw (some (codecName e)) = .ok nl) :
    secNewline env cfg s e = nl := by
  unfold secNewline secNewline?
  rw [hle]
  simp only [leKind_toAscii_beq_dos]
  unfold encNewline
  rw [h1]
  simp only
  rw [h2]
  rfl

/-- no `line_endings` option (metadata): `hg` is `MetaLaws.hguess`, stated with the reader's
`guess_line_endings`, which computes the specification's first-line detection (`SpecFile.guess_of_enc`) -/
theorem secNewline_guessed {env : Env} {cfg : Config} {s : Sec} {e : Option Bytes} {ln : Nat} {dos : Bool}
    {nl : Bytes} (hle : s.get b!"line_endings" = none)
    (hg : Reader.guessLineEndings env cfg ln s.content (e.map Name.ofBytes) = .ok (dos, nl)) :
    secNewline env cfg s e = nl := by
  cases hu : Reader.newlineFor env cfg ln false (e.map Name.ofBytes) with
  | error x =>
    unfold Reader.guessLineEndings at hg
    rw [hu] at hg
    cases hg
  | ok u =>
    cases hd : Reader.newlineFor env cfg ln true (e.map Name.ofBytes) with
    | error x =>
      unfold Reader.guessLineEndings at hg
      rw [hu, hd] at hg
      cases hg
    | ok d =>
      have hu' := SpecFile.newlineFor_ok_iff.mp hu
      have hd' := SpecFile.newlineFor_ok_iff.mp hd
      rw [SpecFile.guess_of_enc ln s.content hu' hd'] at hg
      simp only [Except.ok.injEq, Prod.mk.injEq] at hg
      unfold secNewline secNewline?
      rw [hle]
      simp only [hu', hd', Option.getD_some]
      exact hg.2

theorem indentOf_preamble {s : Sec} (hp : s.isPreamble = true) {indent : Option Int}
    (hget : s.get b!"indent" = indent.map (fun i => (HVal.int i).text.toAscii))
    (hib : ∀ i, indent = some i → 0 ≤ i ∧ i.toNat ≤ Reader.maxRead) :
    indentOf s = (indent.getD 0).toNat := by
  unfold indentOf
  rw [hp, if_pos rfl, hget]
  cases indent with
  | none => rfl
  | some i =>
    simp only [Option.map_some, Option.getD_some]
    rw [convert_int i (hib i rfl).1 (hib i rfl).2]

/-- `htext`: what a preamble / metadata section adds, the decoding fields of `TextLaws` and for metadata the
JSON laws; a diff section needs none of it.  `hDM` (no legal section is both) lets `SecOk.json`, which is asked of
metadata sections, use `htext` -/
theorem secOk_build {env : Env} {cfg : Config} {c : Ctx} {s : Sec} (H : HeaderOk c s)
    (hnm : s.id ≠ SecId.main) (hC : s.hasContent = true) (hDM : s.isDiff = true → s.isMeta = false)
    (e : Option Bytes) (hE : effEnc c s = e) (hstr : ∀ v ∈ e, convert v = .str v)
    (hlen : (s.get b!"length").map convert = some (.int s.content.length))
    (hmax : s.content.length ≤ Reader.maxRead)
    (hle : ∀ v ∈ s.get b!"line_endings", v = b!"dos" ∨ v = b!"unix")
    (hind : s.isPreamble = true → ∀ v ∈ s.get b!"indent", isNat (convert v) = true)
    (hfmt : s.isMeta = true → ∀ v ∈ s.get b!"format", v = b!"json")
    (nl : Bytes) (hNL : secNewline env cfg s e = nl) (hne : nl ≠ []) (hend : nl <:+ s.content)
    (htext : s.isDiff = false → ∃ en plain dec nlT, e = some en ∧ rawText env cfg c s = plain ∧
      env.decode (Name.ofBytes en) plain = .ok dec ∧ env.decode (Name.ofBytes en) nl = .ok nlT ∧
      endsWith dec nlT = true ∧ (s.isMeta = true → ∃ j, env.loadsText dec = .ok j ∧ j.isObj = true)) :
    SecOk env cfg c s := by
  subst hE
  refine { toHeaderOk := H, version := ?_, noContent := ?_, effectiveStr := ?_, length := ?_, lengthMax := hmax,
           lineEndings := hle, indent := hind, format := hfmt, nlNonempty := ?_, nlTerminated := ?_,
           rawTerminated := ?_, decodes := ?_, decodedTerminated := ?_, json := ?_ }
  · intro h; exact absurd h hnm
  · intro h; rw [hC] at h; cases h
  · intro _; exact hstr
  · intro _; exact hlen
  · intro _; rw [hNL]; exact hne
  · intro _; rw [hNL]; exact endsWith_iff_suffix.mpr hend
  · intro _ hd he
    obtain ⟨en, _, _, _, h, _⟩ := htext hd
    rw [he] at h
    cases h
  · intro _ hd e' he'
    obtain ⟨en, plain, dec, nlT, h, hraw, hdec, _, _, _⟩ := htext hd
    rw [h] at he'
    simp only [Option.mem_def, Option.some.injEq] at he'
    subst he'
    rw [hraw, hdec]
    rfl
  · intro _ hd e' he'
    obtain ⟨en, plain, dec, nlT, h, hraw, hdec, hdecNl, hendT, _⟩ := htext hd
    rw [h] at he'
    simp only [Option.mem_def, Option.some.injEq] at he'
    subst he'
    rw [hNL, hraw]
    unfold decoded
    rw [hdec, hdecNl]
    exact ⟨rfl, hendT⟩
  · intro hm
    have hd : s.isDiff = false := by
      cases h : s.isDiff with
      | false => rfl
      | true =>
        have := hDM h
        rw [hm] at this
        cases this
    obtain ⟨en, plain, dec, nlT, h, hraw, hdec, _, _, hj⟩ := htext hd
    obtain ⟨j, hl, ho⟩ := hj hm
    unfold jsonOf
    rw [h]
    simp only
    unfold decoded
    rw [hraw, hdec]
    simp only [val?, Option.getD_some, hl, Option.map_some, ho]

theorem map_str_toAscii (enc : Option Name) :
    (enc.map HVal.str).map (fun v => v.text.toAscii) = enc.map Text.toAscii := by
  cases enc <;> rfl

theorem mainSec_get_encoding (enc : Name) : (mainSec enc).get b!"encoding" = some enc.toAscii :=
  written_get _ (mainOpts_nodup enc) _

theorem secOk_build_container {env : Env} {cfg : Config} {c : Ctx} {s : Sec} (H : HeaderOk c s)
    (hver : s.id = SecId.main → s.get b!"version" = some b!"1.0")
    (hC : s.hasContent = false) (hP : s.isPreamble = false) (hM : s.isMeta = false)
    (hcontent : s.content = []) (hle : s.get b!"line_endings" = none) : SecOk env cfg c s :=
  -- every field about the content asks for `s.hasContent = true`
  have no {P : Prop} (h : s.hasContent = true) : P := absurd (hC ▸ h) Bool.false_ne_true
  { toHeaderOk := H, version := hver, noContent := fun _ => hcontent
    effectiveStr := no, length := no, lengthMax := hcontent ▸ Nat.zero_le _
    lineEndings := fun v hv => by rw [hle] at hv; cases hv
    indent := fun h => by rw [hP] at h; cases h
    format := fun h => by rw [hM] at h; cases h
    nlNonempty := no, nlTerminated := no, rawTerminated := no, decodes := no, decodedTerminated := no
    json := fun h => by rw [hM] at h; cases h }

theorem secOk_main (env : Env) (cfg : Config) (enc : Name) (header : Bytes)
    (hr : renderHeader ⟨0, .diffx⟩ (mainOpts enc) = .ok header) :
    SecOk env cfg Ctx.start (mainSec enc) := by
  have H : HeaderOk Ctx.start (mainSec enc) :=
    headerOk_written [] hr
      (by simp [Ctx.start, allowedNext, SecId.main]) (mainOpts_nodup enc) (mainOpts_keys enc)
  exact secOk_build_container H (fun _ => written_get _ (mainOpts_nodup enc) _) rfl rfl rfl rfl
    (written_get _ (mainOpts_nodup enc) _)

theorem inv_init (env : Env) (cfg : Config) (enc : Name) (he : NameOk enc) (header : Bytes) :
    Inv ⟨header, [some enc, some enc], some ⟨0, .diffx⟩⟩ (Ctx.start.next env cfg (mainSec enc)) := by
  have hal : (mainSec enc).id ∈ allowedNext Ctx.start.prev := by simp [Ctx.start, allowedNext, SecId.main, mainSec]
  obtain ⟨hpush, hdep⟩ := SpecFile.stack_container env cfg hal rfl
  refine ⟨⟨⟨0, .diffx⟩, rfl, SpecFile.next_prev env cfg _ _⟩,
    ⟨some enc, [some enc], rfl, by simp, ?_⟩, ?_⟩
  · rw [← hpush, mainSec_get_encoding]
    show [none, some (convert enc.toAscii)] = _
    rw [he.str]
    rfl
  · rw [hdep]
    rfl

theorem init_conforms (env : Env) (cfg : Config) (enc : Name) (he : NameOk enc)
    (hinit : (init (some enc) (Text.ofAscii b!"1.0")).2 = .ok) :
    SecOk env cfg Ctx.start (mainSec enc) ∧
      Inv (init (some enc) (Text.ofAscii b!"1.0")).1 (Ctx.start.next env cfg (mainSec enc)) := by
  obtain ⟨header, hr, hi⟩ := init_accepted enc hinit
  rw [hi]
  exact ⟨secOk_main env cfg enc header hr, inv_init env cfg enc he header⟩

theorem container_get_encoding (sec : SecId) (enc : Option Name) (data : Bytes) :
    (⟨sec, C02.writtenPairs [(b!"encoding", enc.map HVal.str)], [], data⟩ : Sec).get b!"encoding" =
      enc.map Text.toAscii :=
  (written_get _ (encOpts_nodup enc) _).trans (map_str_toAscii enc)

/-- `new_change` (`k = 0`) / `new_file` (`k = 1`) -/
theorem secOk_container (env : Env) (cfg : Config) {st : St} {c : Ctx} (I : Inv st c) {k : Nat} {name : SecName}
    (hkn : (k = 0 ∧ name = .change) ∨ (k = 1 ∧ name = .file)) {enc : Option Name}
    (hv : validate st ⟨k + 1, name⟩ = .ok ()) {header : Bytes}
    (hr : renderHeader ⟨k + 1, name⟩ [(b!"encoding", enc.map HVal.str)] = .ok header) :
    SecOk env cfg c ⟨⟨k + 1, name⟩, C02.writtenPairs [(b!"encoding", enc.map HVal.str)], [], []⟩ := by
  obtain ⟨p, hp, hcp⟩ := I.prev
  have hmem := (validate_ok_iff st _).mp hv p hp
  have hal : (⟨k + 1, name⟩ : SecId) ∈ allowedNext c.prev := by rw [hcp]; exact hmem
  have H := headerOk_written (c := c) [] hr hal (encOpts_nodup enc)
    (by intro q hq; rw [List.mem_singleton.mp hq]; exact (by decide : keyOk b!"encoding" = true))
  have hle : (⟨⟨k + 1, name⟩, C02.writtenPairs [(b!"encoding", enc.map HVal.str)], [], []⟩ : Sec).get
      b!"line_endings" = none :=
    written_get _ (encOpts_nodup enc) _
  obtain ⟨hcs, hps, hms, hmain, -⟩ := container_kinds hkn
  exact secOk_build_container H (fun h => absurd h hmain) hcs hps hms rfl hle

-- `convert_nat` in the shape the goal of `written_content` has: applied there directly, the unifier
-- unfolds `convert`, which is slow to check
theorem length_convert (n : Nat) (hn : n ≤ Reader.maxRead) :
    (some (HVal.int (n : Int))).map (fun v => convert v.text.toAscii) = some (.int (n : Int)) :=
  congrArg some (convert_nat n hn)

/-- **the header of a content section the writer emits**, whatever its kind (`opts`: the option list of
the call; `k0`, `v0`: the option of the call's own): well-formed where it stands, and what its options
are on the wire.  The section is a variable `s` with the equation `hs`, so that the callers, who `generalize`
it, do not carry its term through their goals -/
theorem written_content {c : Ctx} {st : St} (I : Inv st c) {name : SecName}
    {k0 : Bytes} {v0 : Option HVal} (hk0 : keyOk k0 = true)
    (h0 : k0 ∉ [b!"encoding", b!"indent", b!"length", b!"line_endings"])
    {enc : Option Name} {indent : Option Int} {wl : Bool} {data : Bytes} {le : Text}
    (hlen : data.length ≤ Reader.maxRead) {opts : List (Bytes × Option HVal)}
    (ho : opts = contentOpts [(k0, v0)] enc indent data.length wl le)
    (hv : validate st ⟨st.level, name⟩ = .ok ()) {header : Bytes}
    (hr : renderHeader ⟨st.level, name⟩ opts = .ok header)
    {s : Sec} (hs : s = ⟨⟨st.level, name⟩, C02.writtenPairs opts, [], data⟩) :
    HeaderOk c s ∧ s.id ∈ SecId.legal ∧ s.id = ⟨st.level, name⟩ ∧ s.content = data ∧
    s.get k0 = v0.map (fun v => v.text.toAscii) ∧ s.get b!"encoding" = enc.map Text.toAscii ∧
    s.get b!"indent" = indent.map (fun i => (HVal.int i).text.toAscii) ∧
    (s.get b!"length").map convert = some (.int s.content.length) ∧
    s.get b!"line_endings" = (if wl then some le.toAscii else none) := by
  obtain ⟨p, hp, hcp⟩ := I.prev
  have hmem := (validate_ok_iff st _).mp hv p hp
  obtain ⟨hnd, hk, g0, g1, g2, g3, g4⟩ := contentOpts_lookup hk0 h0 ho
  subst hs
  have hget : ∀ k, Sec.get ⟨⟨st.level, name⟩, C02.writtenPairs opts, [], data⟩ k =
      (optLookup opts k).map (fun v => v.text.toAscii) := fun k => written_get _ hnd k
  refine ⟨headerOk_written data hr (by rw [hcp]; exact hmem) hnd hk, validNext_legal hmem, rfl, rfl,
    ?_, ?_, ?_, ?_, ?_⟩
  · rw [hget, g0]
  · rw [hget, g1]
    exact map_str_toAscii enc
  · rw [hget, g2]
    cases indent <;> rfl
  · rw [hget, g3, Option.map_map]
    exact length_convert _ hlen
  · rw [hget, g4]
    cases wl <;> rfl

theorem content_rec {env : Env} {cfg : Config} {c : Ctx} {s : Sec} (H : HeaderOk c s) (hC : s.hasContent = true)
    {body : Reader.Content} (hb : bodyOf env cfg c s = body) {e : Option Bytes} (hE : effEnc c s = e)
    {nl : Bytes} (hNL : secNewline env cfg s e = nl) :
    recOf env cfg c s = ⟨s.id, c.line, Spec.reported s.opts, body⟩ ∧
      linesOf env cfg c s = 1 + (splitLines s.content nl true).length := by
  unfold recOf linesOf
  rw [hb, SpecFile.optsOf_eq_reported s H.distinct, hC, hE, hNL]
  exact ⟨rfl, rfl⟩

/-- `write_preamble`: the section is well-formed where it stands, and the specification reads it as the record and
the number of lines that the direct simulation expects -/
theorem secOk_preamble {env : Env} {cfg : Config} {st : St} {c : Ctx} (I : Inv st c) {t : Text}
    {enc : Option Name} {indent : Option Int} {le : Option Text} (mime : Option Text)
    (L : PreambleLaws env cfg st t enc indent le)
    (hv : validate st ⟨st.level, .preamble⟩ = .ok ()) {header : Bytes}
    (hr : renderHeader ⟨st.level, .preamble⟩
      (contentOpts [(b!"mimetype", mime.map HVal.str)] enc indent L.data.length true L.leOut) = .ok header) :
    SecOk env cfg c (secOne env cfg st (.preamble (.str t) enc indent le mime) L) ∧
    recOf env cfg c (secOne env cfg st (.preamble (.str t) enc indent le mime) L) =
      (expectedOne env cfg st c.line (.preamble (.str t) enc indent le mime) L).1 ∧
    linesOf env cfg c (secOne env cfg st (.preamble (.str t) enc indent le mime) L) =
      (expectedOne env cfg st c.line (.preamble (.str t) enc indent le mime) L).2 := by
  have hibound := L.indent_bound
  generalize hs : secOne env cfg st (.preamble (.str t) enc indent le mime) L = s
  obtain ⟨H, hleg, hsid, hsc, -, hgenc, hgind, hglen, hgle⟩ := written_content I (k0 := b!"mimetype")
    (by decide) (by decide) L.hlen rfl hv hr hs.symm
  obtain ⟨hP, hM, hC, hfd, hnm⟩ : s.isPreamble = true ∧ s.isMeta = false ∧ s.hasContent = true ∧
      s.id ≠ SecId.fileDiff ∧ s.id ≠ SecId.main := legal_preamble _ hleg (by rw [hsid])
  rw [if_pos rfl, L.text.hle] at hgle
  have hD : s.isDiff = false := beq_false_of_ne hfd
  obtain ⟨hE, hEstr⟩ := effEnc_inherit I H.allowed hC hD L.encOk hgenc L.text.heff
  have hNL : secNewline env cfg s (some L.text.encName) = L.text.nl :=
    secNewline_declared hgle L.text.henc L.text.hbom
  obtain ⟨d, _, hfin⟩ := L.text.stages L.hprep
  have hRaw : rawText env cfg c s = L.text.plain := by
    unfold rawText
    rw [hE, hNL, indentOf_preamble hP hgind hibound, hsc]
    exact (L.text.strip_indent L.indentOk L.hprep).1
  have ok : SecOk env cfg c s := by
    refine secOk_build H hnm hC (by intro h; rw [hD] at h; cases h)
      (some L.text.encName) hE ?_ hglen (by rw [hsc]; exact L.hlen) ?_ ?_ ?_ L.text.nl hNL L.text.hne
      (by rw [hsc]; exact prepFinish_suffix hfin) ?_
    · exact forall_mem_of_eq_some rfl hEstr
    · exact forall_mem_of_eq_some hgle (leKind_cases _)
    · intro _
      cases indent with
      | none => exact forall_mem_of_eq_none hgind
      | some i =>
        refine forall_mem_of_eq_some hgind ?_
        rw [convert_int i (hibound i rfl).1 (hibound i rfl).2]
        simpa [isNat] using (hibound i rfl).1
    · intro h; rw [hM] at h; cases h
    · intro _
      refine ⟨L.text.encName, L.text.plain, L.text.decoded, nlText L.text.dos, rfl, ?_, L.text.hdec, L.text.hdecNl,
        L.text.hendT, ?_⟩
      · exact hRaw
      · intro h; rw [hM] at h; cases h
  have hb : bodyOf env cfg c s = .text L.text.decoded := by
    unfold bodyOf
    rw [hC, hP, hE]
    simp only [Bool.not_true, Bool.false_eq_true, if_false, if_true]
    unfold decoded
    rw [hRaw, show Name.ofBytes L.text.encName = Text.ofAscii L.text.encName from rfl, L.text.hdec]
    rfl
  obtain ⟨h1, h2⟩ := content_rec H hC hb hE hNL
  refine ⟨ok, ?_, ?_⟩
  · rw [h1, hsid, ← hs]
    rfl
  · rw [h2, hsc]
    exact congrArg (1 + ·) (L.text.strip_indent L.indentOk L.hprep).2

/-- `write_meta`, likewise -/
theorem secOk_meta {env : Env} {cfg : Config} {st : St} {c : Ctx} (I : Inv st c) {j : Json}
    {enc : Option Name} (L : MetaLaws env cfg st j enc)
    (hv : validate st ⟨st.level, .metadata⟩ = .ok ()) {header : Bytes}
    (hr : renderHeader ⟨st.level, .metadata⟩
      (contentOpts [(b!"format", some (HVal.str (Text.ofAscii b!"json")))] enc none L.tl.plain.length false L.leOut) =
        .ok header) :
    SecOk env cfg c (secOne env cfg st (.metadata (.dict j) enc (Text.ofAscii b!"json")) L) ∧
    recOf env cfg c (secOne env cfg st (.metadata (.dict j) enc (Text.ofAscii b!"json")) L) =
      (expectedOne env cfg st c.line (.metadata (.dict j) enc (Text.ofAscii b!"json")) L).1 ∧
    linesOf env cfg c (secOne env cfg st (.metadata (.dict j) enc (Text.ofAscii b!"json")) L) =
      (expectedOne env cfg st c.line (.metadata (.dict j) enc (Text.ofAscii b!"json")) L).2 := by
  generalize hs : secOne env cfg st (.metadata (.dict j) enc (Text.ofAscii b!"json")) L = s
  obtain ⟨H, hleg, hsid, hsc, hgfmt, hgenc, -, hglen, hgle⟩ := written_content I (k0 := b!"format")
    (by decide) (by decide) L.hlen rfl hv hr hs.symm
  obtain ⟨hP, hM, hC, hfd, hnm⟩ : s.isPreamble = false ∧ s.isMeta = true ∧ s.hasContent = true ∧
      s.id ≠ SecId.fileDiff ∧ s.id ≠ SecId.main := legal_meta _ hleg (by rw [hsid])
  replace hgle : s.get b!"line_endings" = none := hgle
  replace hgfmt : s.get b!"format" = some b!"json" := hgfmt
  have hD : s.isDiff = false := beq_false_of_ne hfd
  obtain ⟨hE, hEstr⟩ := effEnc_inherit I H.allowed hC hD L.encOk hgenc L.tl.heff
  have hNL : secNewline env cfg s (some L.tl.encName) = L.tl.nl :=
    secNewline_guessed hgle (by rw [hsc]; exact L.hguess 0)
  have hRaw : rawText env cfg c s = L.tl.plain := by
    unfold rawText indentOf
    rw [hP, hsc]
    rfl
  have ok : SecOk env cfg c s := by
    refine secOk_build H hnm hC (by intro h; rw [hD] at h; cases h)
      (some L.tl.encName) hE ?_ hglen (by rw [hsc]; exact L.hlen) ?_ ?_ ?_ L.tl.nl hNL L.tl.hne
      (by rw [hsc]; exact L.tl.nl_suffix_plain) ?_
    · exact forall_mem_of_eq_some rfl hEstr
    · exact forall_mem_of_eq_none hgle
    · intro h; rw [hP] at h; cases h
    · exact fun _ => forall_mem_of_eq_some hgfmt rfl
    · intro _
      refine ⟨L.tl.encName, L.tl.plain, L.tl.decoded, nlText L.tl.dos, rfl, ?_, L.tl.hdec, L.tl.hdecNl,
        L.tl.hendT, ?_⟩
      · exact hRaw
      · intro _
        exact ⟨L.parsed, L.hloads, L.hobj⟩
  have hb : bodyOf env cfg c s = .metadata L.parsed := by
    unfold bodyOf
    rw [hC, hP, hM]
    simp only [Bool.not_true, Bool.false_eq_true, if_false, if_true]
    unfold jsonOf
    rw [hE]
    simp only
    unfold decoded
    rw [hRaw, show Name.ofBytes L.tl.encName = Text.ofAscii L.tl.encName from rfl, L.tl.hdec]
    simp only [val?, Option.getD_some, L.hloads]
  obtain ⟨h1, h2⟩ := content_rec H hC hb hE hNL
  refine ⟨ok, ?_, ?_⟩
  · rw [h1, hsid, ← hs]
    rfl
  · rw [h2, hsc]
    rfl

theorem codecName_diff (encName : Option Bytes) :
    codecName encName = (encName.map Text.ofAscii).getD (Text.ofAscii b!"ascii") :=
  (SpecFile.codecName_eq encName).symm

/-- `write_diff`, likewise -/
theorem secOk_diff {env : Env} {cfg : Config} {st : St} {c : Ctx} (I : Inv st c) {b : Bytes}
    (dtype : Option Text) {enc : Option Name} {le : Option Text} (L : DiffCallLaws env cfg st b enc le)
    (hv : validate st ⟨st.level, .diff⟩ = .ok ()) {header : Bytes}
    (hr : renderHeader ⟨st.level, .diff⟩
      (contentOpts [(b!"type", dtype.map HVal.str)] enc none L.data.length true L.leOut) = .ok header) :
    SecOk env cfg c (secOne env cfg st (.diff (.bytes b) dtype enc le) L) ∧
    recOf env cfg c (secOne env cfg st (.diff (.bytes b) dtype enc le) L) =
      (expectedOne env cfg st c.line (.diff (.bytes b) dtype enc le) L).1 ∧
    linesOf env cfg c (secOne env cfg st (.diff (.bytes b) dtype enc le) L) =
      (expectedOne env cfg st c.line (.diff (.bytes b) dtype enc le) L).2 := by
  generalize hs : secOne env cfg st (.diff (.bytes b) dtype enc le) L = s
  obtain ⟨H, hleg, hsid, hsc, -, hgenc', -, hglen, hgle⟩ := written_content I (k0 := b!"type")
    (by decide) (by decide) L.hlen rfl hv hr hs.symm
  obtain ⟨hP, hM, hC, hsec⟩ : s.isPreamble = false ∧ s.isMeta = false ∧ s.hasContent = true ∧
      s.id = SecId.fileDiff := legal_diff _ hleg (by rw [hsid])
  rw [if_pos rfl, L.dl.hle] at hgle
  have hnm : s.id ≠ SecId.main := by rw [hsec]; decide
  have hD : s.isDiff = true := by unfold Sec.isDiff; rw [hsec]; rfl
  have hencN : enc.map Text.toAscii = L.dl.encName := L.dl.enc_toAscii
  have hgenc : s.get b!"encoding" = L.dl.encName := hgenc'.trans hencN
  have hE : effEnc c s = L.dl.encName := by
    unfold effEnc
    rw [hgenc, hD]
    cases L.dl.encName <;> rfl
  have hcodec : codecName L.dl.encName = enc.getD (Text.ofAscii b!"ascii") := by
    rw [codecName_diff, ← L.dl.henc]
  have hNL : secNewline env cfg s L.dl.encName = L.dl.nl :=
    secNewline_declared hgle (by rw [hcodec]; exact L.dl.hencR)
      (by rw [hcodec]; exact L.dl.hbomR)
  have hends : L.dl.nl <:+ L.data := by
    rw [diff_prepared_eq L.hprep L.dl]
    exact normBytes_suffix b _
  have ok : SecOk env cfg c s := by
    refine secOk_build H hnm hC (fun _ => hM)
      L.dl.encName hE ?_ hglen (by rw [hsc]; exact L.hlen) ?_ ?_ ?_ L.dl.nl hNL L.dl.hne
      (by rw [hsc]; exact hends) ?_
    · cases enc with
      | none => exact forall_mem_of_eq_none hencN.symm
      | some n => exact forall_mem_of_eq_some hencN.symm (L.encOk n rfl).str
    · exact forall_mem_of_eq_some hgle (leKind_cases _)
    · intro h; rw [hP] at h; cases h
    · intro h; rw [hM] at h; cases h
    · intro h; rw [hD] at h; cases h
  have hb : bodyOf env cfg c s = .diff L.data := by
    unfold bodyOf
    rw [hC, hP, hM, hsc]
    simp only [Bool.not_true, Bool.false_eq_true, if_false]
  obtain ⟨h1, h2⟩ := content_rec H hC hb hE hNL
  refine ⟨ok, ?_, ?_⟩
  · rw [h1, hsid, ← hs]
    rfl
  · rw [h2, hsc]
    rfl

theorem container_rec (env : Env) (cfg : Config) {ctx : Ctx} {s : Sec} (H : HeaderOk ctx s)
    (hC : s.hasContent = false) :
    recOf env cfg ctx s = ⟨s.id, ctx.line, Spec.reported s.opts, .container⟩ ∧ linesOf env cfg ctx s = 1 := by
  unfold recOf linesOf bodyOf
  rw [hC, SpecFile.optsOf_eq_reported s H.distinct]
  exact ⟨rfl, rfl⟩

/-- **one accepted call writes a section that is well-formed where it stands**, the relation
between the writer's state and the specification's context is re-established, and the
specification's reading of the section (record, number of logical lines) is what the direct
simulation `C01_sim_step` expects -/
theorem step_conforms {env : Env} {cfg : Config} {st : St} {ctx : Ctx} (I : Inv st ctx) {c : Call}
    (hok : (step env cfg st c).2 = .ok) (L : CallLaws env cfg st c) :
    SecOk env cfg ctx (secOne env cfg st c L) ∧
      Inv (step env cfg st c).1 (ctx.next env cfg (secOne env cfg st c L)) ∧
      recOf env cfg ctx (secOne env cfg st c L) = (expectedOne env cfg st ctx.line c L).1 ∧
      linesOf env cfg ctx (secOne env cfg st c L) = (expectedOne env cfg st ctx.line c L).2 := by
  obtain ⟨header, hpre, hv, hr, hstep⟩ := accepted hok L
  have hcs : ∀ name, name = SecName.preamble ∨ name = .metadata ∨ name = .diff →
      validate st ⟨st.level, name⟩ = .ok () → contentSections.contains (⟨st.level, name⟩ : SecId) = true := by
    intro name hn hv
    obtain ⟨p, hp, _⟩ := I.prev
    exact legal_content _ (validNext_legal ((validate_ok_iff st _).mp hv p hp)) hn
  rw [hstep]
  rcases pre_none_cases hpre with ⟨enc, rfl⟩ | ⟨enc, rfl⟩ | ⟨t, enc, indent, le, mime, rfl⟩ |
    ⟨j, enc, rfl⟩ | ⟨d, dtype, enc, le, rfl⟩
  · have ok := secOk_container env cfg I (k := 0) (Or.inl ⟨rfl, rfl⟩) hv hr
    obtain ⟨h1, h2⟩ := container_rec env cfg ok.toHeaderOk rfl
    exact ⟨ok, I.container env cfg 0 .change (Or.inl ⟨rfl, rfl⟩) enc L.down _ rfl
      (container_get_encoding _ enc []) ok.allowed _, h1, h2⟩
  · have ok := secOk_container env cfg I (k := 1) (Or.inr ⟨rfl, rfl⟩) hv hr
    obtain ⟨h1, h2⟩ := container_rec env cfg ok.toHeaderOk rfl
    exact ⟨ok, I.container env cfg 1 .file (Or.inr ⟨rfl, rfl⟩) enc L.down _ rfl
      (container_get_encoding _ enc []) ok.allowed _, h1, h2⟩
  · obtain ⟨ok, h1, h2⟩ := secOk_preamble I mime L hv hr
    exact ⟨ok, I.content env cfg _ ok.allowed (hcs _ (Or.inl rfl) hv) _, h1, h2⟩
  · obtain ⟨ok, h1, h2⟩ := secOk_meta I L hv hr
    exact ⟨ok, I.content env cfg _ ok.allowed (hcs _ (Or.inr (Or.inl rfl)) hv) _, h1, h2⟩
  · obtain ⟨ok, h1, h2⟩ := secOk_diff I dtype L hv hr
    exact ⟨ok, I.content env cfg _ ok.allowed (hcs _ (Or.inr (Or.inr rfl)) hv) _, h1, h2⟩

theorem conforms_from {env : Env} {cfg : Config} {cs : List Call} {st : St} {ctx : Ctx} (I : Inv st ctx)
    (hok : AllOk env cfg st cs) (Ls : ProgramLawsFrom env cfg st cs) :
    WFFrom env cfg ctx (docFrom env cfg st cs Ls) ∧
      readFrom env cfg ctx (docFrom env cfg st cs Ls) = expectedFrom env cfg st ctx.line cs Ls := by
  induction cs generalizing st ctx with
  | nil => exact ⟨trivial, rfl⟩
  | cons c cs ih =>
    obtain ⟨L, Ls'⟩ := Ls
    obtain ⟨ok, I', h1, h2⟩ := step_conforms I hok.1 L
    obtain ⟨wf, hr⟩ := ih I' hok.2 Ls'
    refine ⟨⟨ok, wf⟩, ?_⟩
    simp only [docFrom, readFrom, expectedFrom]
    rw [hr, h1, SpecFile.next_line, h2]

end Diffx.Conform
