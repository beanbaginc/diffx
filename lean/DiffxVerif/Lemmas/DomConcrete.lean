import DiffxVerif.Lemmas.DomRoundTrip
import DiffxVerif.Lemmas.ConcreteRun
/-!
# The object-model round trip for the concrete codecs: no hypothesis about codecs

Under `ProgramLaws` the loader builds `expTree … laws`, and under `ReLaws` serialising that tree reaches the
same writer state (Lemmas/DomRoundTrip.lean); `Lemmas/ConcreteRun.lean` derives `ProgramLaws` from acceptance for
`Codecs.env dumps loadsText loadsBytes` / `Codecs.cfg`.  Here `normalisedTree` is **the normalised tree as a
function of the tree alone**: no law, no writer state, no environment, not even `contentCall`; it reads the
options through `optText`, `indentOf`, `typeOf`, as `callOf` does (Lemmas/Dom.lean).  Whatever laws are given for
a call of the concrete environment, the line-ending kind and the content they determine are functions of the
arguments (`preamble_norm`, `meta_norm`, `diff_norm`), so `expTree … L = normalisedTree di t` for **any** laws
`L` (`expTree_eq`), and `ReLaws` holds of any laws (`reLaws_any`).  The metadata contents of the tree must be JSON
objects (`TreeDicts`) and lie in the domain `Dom` on which the laws of `json` are assumed (`TreeDictsIn Dom`,
`JsonLaws Dom`); `DictArgs` is `DictsIn` for the domain "is a JSON object" (`dictArgs_iff`).
-/
namespace Diffx.DomConc
open Diffx Diffx.Dom Diffx.DomRT Diffx.Codecs Diffx.Writer
open Diffx.RunRT (ProgramLaws ProgramLawsFrom CallLaws PreambleLaws MetaLaws DiffCallLaws AllOk allOk_append)

/-- **a written preamble, as loaded**: `encoding` / `mimetype` if given, the indent used (`None`
recorded when not indented), `line_endings` as declared or detected on the first line of the
text; the text with that line ending appended when missing -/
def normPreamble (di : Nat) (o : DOpts) (t : Text) : ContentSec :=
  let le := optText o b!"line_endings"
  ⟨.preamble,
   preambleOpts (optText o b!"encoding") (indentOf di o) (leKind (textDos le t)) (optText o b!"mimetype"),
   .str (normText t (textDos le t))⟩

/-- **a written metadata section, as loaded**: `encoding` if given, `format=json`; the same dict -/
def normMeta (o : DOpts) (j : Json) : ContentSec :=
  ⟨.metadata, metaOpts (optText o b!"encoding") (Text.ofAscii b!"json"), .dict j⟩

/-- **a written diff, as loaded**: `encoding` / `type` if given, `line_endings` as declared or
detected on the bytes with the LF / CRLF of the codec `encoding or 'ascii'`; the bytes with that
newline appended when missing -/
def normDiff (o : DOpts) (b : Bytes) : ContentSec :=
  let enc := optText o b!"encoding"
  let le := optText o b!"line_endings"
  ⟨.diff, diffOpts enc (leKind (diffDos (diffCodec enc) le b)) (typeOf o),
   .bytes (normBytes b (diffNl enc le b))⟩

/-- **a content section after the round trip**: `dflt` (the section of a fresh tree / change /
file) when its content is falsy and the section is skipped -/
def normSec (di : Nat) (dflt : ContentSec) (c : ContentSec) : ContentSec :=
  if !c.content.truthy then dflt else
  match c.kind, c.content with
  | .preamble, .str t => normPreamble di c.opts t
  | .metadata, .dict j => normMeta c.opts j
  | .diff, .bytes b => normDiff c.opts b
  | _, _ => dflt

theorem normSec_skip {di : Nat} {dflt c : ContentSec} (h : c.content.truthy = false) : normSec di dflt c = dflt := by
  unfold normSec
  simp [h]

/-- the options of a change / file after the round trip: the `encoding`, if one was given -/
def normContainerOpts (o : DOpts) : DOpts := optStr b!"encoding" (optText o b!"encoding")

def normFile (di : Nat) (f : FileSec) : FileSec :=
  ⟨normContainerOpts f.opts, normSec di newMeta f.metaSec, normSec di newDiff f.diff⟩

def normChange (di : Nat) (c : ChangeSec) : ChangeSec :=
  ⟨normContainerOpts c.opts, normSec di newPreamble c.preamble, normSec di newMeta c.metaSec,
   c.files.map (normFile di)⟩

/-- **the normalised tree** (`di` is `DEFAULT_PREAMBLE_INDENT`): the main options are the
`encoding` given and `version=1.0`; same changes and files in order -/
def normalisedTree (di : Nat) (t : Tree) : Tree :=
  ⟨optStr b!"encoding" (optText t.opts b!"encoding") ++ [(b!"version", .str (Text.ofAscii b!"1.0"))],
   normSec di newPreamble t.preamble, normSec di newMeta t.metaSec, t.changes.map (normChange di)⟩

/-- a metadata `dict` is a JSON object (`PyVal.dict` stands for a Python `dict`; the type allows
`.dict (.int 1)`) -/
def secDictOk (c : ContentSec) : Bool :=
  match c.content with
  | .dict j => j.isObj
  | _ => true

def secDictIn (Dom : Json → Prop) (c : ContentSec) : Prop := ∀ j, c.content = .dict j → Dom j

def fileDicts (f : FileSec) : Bool := secDictOk f.metaSec
def changeDicts (c : ChangeSec) : Bool := secDictOk c.metaSec && c.files.all fileDicts
def treeDicts (t : Tree) : Bool := secDictOk t.metaSec && t.changes.all changeDicts

/-- **Metadata contents are JSON objects**: every `PyVal.dict j` held by a metadata section has
`j` a `Json.obj` (decidable).  In Python the content of a `DiffXMetaSection` is a `dict`. -/
def TreeDicts (t : Tree) : Prop := treeDicts t = true

instance (t : Tree) : Decidable (TreeDicts t) := inferInstanceAs (Decidable (treeDicts t = true))

def fileDictsIn (Dom : Json → Prop) (f : FileSec) : Prop := secDictIn Dom f.metaSec
def changeDictsIn (Dom : Json → Prop) (c : ChangeSec) : Prop :=
  secDictIn Dom c.metaSec ∧ ∀ f ∈ c.files, fileDictsIn Dom f

/-- **Metadata contents lie in the domain on which the laws of `json` are assumed**: every
`PyVal.dict j` that is the content of a metadata section of the tree — the main one, that of each
change, that of each file — has `Dom j`.  For CPython `Dom` is `Json.Representable`
(Model/JsonDom.lean): what the harness presents of a Python `dict` of JSON values. -/
def TreeDictsIn (Dom : Json → Prop) (t : Tree) : Prop :=
  secDictIn Dom t.metaSec ∧ ∀ c ∈ t.changes, changeDictsIn Dom c

theorem treeDictsIn_true (t : Tree) : TreeDictsIn (fun _ => True) t :=
  ⟨fun _ _ => trivial, fun _ _ => ⟨fun _ _ => trivial, fun _ _ _ _ => trivial⟩⟩

theorem TreeDictsIn.mono {Dom Dom' : Json → Prop} (hsub : ∀ j, Dom j → Dom' j) {t : Tree}
    (h : TreeDictsIn Dom t) : TreeDictsIn Dom' t :=
  ⟨fun j hj => hsub j (h.1 j hj), fun c hc =>
    ⟨fun j hj => hsub j ((h.2 c hc).1 j hj), fun f hf j hj => hsub j ((h.2 c hc).2 f hf j hj)⟩⟩

theorem TreeDictsIn.and {D D' : Json → Prop} {t : Tree} (h : TreeDictsIn D t) (h' : TreeDictsIn D' t) :
    TreeDictsIn (fun j => D j ∧ D' j) t :=
  ⟨fun j hj => ⟨h.1 j hj, h'.1 j hj⟩, fun c hc =>
    ⟨fun j hj => ⟨(h.2 c hc).1 j hj, (h'.2 c hc).1 j hj⟩,
      fun f hf j hj => ⟨(h.2 c hc).2 f hf j hj, (h'.2 c hc).2 f hf j hj⟩⟩⟩

theorem secDictOk_in {c : ContentSec} (h : secDictOk c = true) : secDictIn (·.isObj = true) c := by
  intro j hj
  unfold secDictOk at h
  rw [hj] at h
  exact h

theorem treeDicts_in {t : Tree} (h : TreeDicts t) : TreeDictsIn (·.isObj = true) t := by
  simp only [TreeDicts, treeDicts, changeDicts, fileDicts, Bool.and_eq_true, List.all_eq_true] at h
  exact ⟨secDictOk_in h.1, fun c hc => ⟨secDictOk_in (h.2 c hc).1, fun f hf => secDictOk_in ((h.2 c hc).2 f hf)⟩⟩

theorem kind_ne_in {Dom : Json → Prop} {c : ContentSec} {k : Kind} (h : c.kind = k) (hk : k ≠ .metadata) :
    c.kind = .metadata → secDictIn Dom c := fun h' => absurd (h.symm.trans h') hk

section Env
variable {Dom : Json → Prop} {dj : Json → EnvR Text} {lt : Text → EnvR Json} {lb : Bytes → EnvR Json}

theorem preamble_norm (hjson : JsonLaws Dom dj lt) {st : St} {t : Text} {enc : Option Name} {indent : Option Int}
    {le : Option Text} (L : PreambleLaws (env dj lt lb) cfg st t enc indent le) :
    L.leOut = leKind (textDos le t) ∧ L.text.decoded = normText t (textDos le t) := by
  have F := callFaithful_any hjson st (.preamble (.str t) enc indent le none) rfl trivial L
  have h : Reader.Content.text L.text.decoded = .text (normText t (textDos le t)) :=
    RunRT.expected_content_eq 0 F
  refine ⟨?_, by injection h⟩
  rw [L.text.hle, L.text.dos_eq]

theorem meta_norm (hjson : JsonLaws Dom dj lt) {st : St} {l : List (Text × Json)} (hdom : Dom (.obj l))
    {enc : Option Name} (L : MetaLaws (env dj lt lb) cfg st (.obj l) enc) : L.parsed = .obj l := by
  have F := callFaithful_any hjson st (.metadata (.dict (.obj l)) enc (Text.ofAscii b!"json")) rfl hdom L
  have h : Reader.Content.metadata L.parsed = .metadata (.obj l) :=
    RunRT.expected_content_eq 0 F
  injection h

theorem diff_norm {st : St} {b : Bytes} {enc : Option Name} {le : Option Text}
    (L : DiffCallLaws (env dj lt lb) cfg st b enc le) :
    L.leOut = leKind (diffDos (diffCodec enc) le b) ∧ L.data = normBytes b (diffNl enc le b) ∧
      lookup (enc.getD asciiName) = some (diffCodec enc) := by
  have h1 : Reader.Content.diff L.data = .diff (normBytes b L.dl.nl) :=
    RunRT.expected_content_eq (c := .diff (.bytes b) none enc le) (L := L) 0 trivial
  have h2 : Reader.Content.diff (normBytes b L.dl.nl) = .diff (normBytes b (diffNl enc le b)) :=
    written_eq_any st (.diff (.bytes b) none enc le) L
  obtain ⟨c, hc, hle, -⟩ := diff_prepared L.encOk L.dl.hw
  have hcd : diffCodec enc = c := by unfold diffCodec; rw [hc]; rfl
  refine ⟨by rw [hcd]; exact hle, ?_, by rw [hcd]; exact hc⟩
  injection h1 with h1
  injection h2 with h2
  rw [h1, h2]

theorem expContent_eq (hjson : JsonLaws Dom dj lt) {di : Nat} {c : ContentSec} (htr : c.content.truthy = true)
    (hin : c.kind = .metadata → secDictIn (fun j => j.isObj = true ∧ Dom j) c) {st : St} {dflt : ContentSec}
    (hok : (Writer.step (env dj lt lb) cfg st (callOf di c)).2 = .ok)
    {L : CallLaws (env dj lt lb) cfg st (callOf di c)} :
    expContent (env dj lt lb) cfg st dflt (callOf di c) L = normSec di dflt c := by
  obtain ⟨k, o, v⟩ := c
  unfold normSec
  simp only [htr, Bool.not_true, Bool.false_eq_true, if_false]
  cases k <;> cases v
  case preamble.str t =>
    change PreambleLaws (env dj lt lb) cfg st t (optText o b!"encoding") (indentOf di o)
      (optText o b!"line_endings") at L
    obtain ⟨h1, h2⟩ := preamble_norm hjson L
    have e : expContent (env dj lt lb) cfg st dflt (callOf di ⟨.preamble, o, .str t⟩) L =
        ⟨.preamble, preambleOpts (optText o b!"encoding") (indentOf di o) L.leOut (optText o b!"mimetype"),
          .str L.text.decoded⟩ := rfl
    rw [e, h2, h1]
    rfl
  case metadata.dict j =>
    obtain ⟨l, rfl⟩ := isObj_inv j (hin rfl _ rfl).1
    change MetaLaws (env dj lt lb) cfg st (.obj l) (optText o b!"encoding") at L
    have h1 := meta_norm hjson (hin rfl _ rfl).2 L
    obtain ⟨-, -, hpre, -⟩ := Writer.step_accepted hok
    have hfmt : fmtOf o = Text.ofAscii b!"json" :=
      (Writer.pre_none_inv (c := .metadata (.dict (.obj l)) (optText o b!"encoding") (fmtOf o)) hpre).2
    have e : expContent (env dj lt lb) cfg st dflt (callOf di ⟨.metadata, o, .dict (.obj l)⟩) L =
        ⟨.metadata, metaOpts (optText o b!"encoding") (fmtOf o), .dict L.parsed⟩ := rfl
    rw [e, h1, hfmt]
    rfl
  case diff.bytes b =>
    change DiffCallLaws (env dj lt lb) cfg st b (optText o b!"encoding") (optText o b!"line_endings") at L
    obtain ⟨h1, h2, -⟩ := diff_norm L
    have e : expContent (env dj lt lb) cfg st dflt (callOf di ⟨.diff, o, .bytes b⟩) L =
        ⟨.diff, diffOpts (optText o b!"encoding") L.leOut (typeOf o), .bytes L.data⟩ := rfl
    rw [e, h2, h1]
    rfl
  all_goals rfl

theorem expSec_eq (hjson : JsonLaws Dom dj lt) {di : Nat} {c : ContentSec}
    (hin : c.kind = .metadata → secDictIn (fun j => j.isObj = true ∧ Dom j) c) (dflt : ContentSec)
    (hsok : ∃ oc, contentCall di c = .ok oc) {st : St} (hok : AllOk (env dj lt lb) cfg st (secCalls di c))
    {L : ProgramLawsFrom (env dj lt lb) cfg st (secCalls di c)} :
    expSec (env dj lt lb) cfg st dflt (contentCall di c) L = normSec di dflt c := by
  obtain ⟨oc, hs⟩ := hsok
  unfold secCalls at hok L
  by_cases htr : c.content.truthy = true
  · obtain rfl := contentCall_spec htr hs
    generalize contentCall di c = s at hs hok L
    subst hs
    obtain ⟨L1, Ls⟩ := L
    exact expContent_eq hjson htr hin hok.1
  · have hf : c.content.truthy = false := by simpa using htr
    have h0 := contentCall_skip di hf
    generalize contentCall di c = s at h0 L
    subst h0
    exact (normSec_skip hf).symm

theorem containerDOpts_eq {mk : Option Name → Writer.Call} {o : DOpts} {oc : Option Writer.Call}
    (h : containerCall mk o = .ok oc) (hmk : mk = Writer.Call.newChange ∨ mk = Writer.Call.newFile) :
    containerDOpts (containerCall mk o) = normContainerOpts o := by
  rw [h, containerCall_enc h]
  rcases hmk with rfl | rfl <;> rfl

theorem expFile_eq (hjson : JsonLaws Dom dj lt) {di : Nat} {f : FileSec} (hf : FileWF di f)
    (hin : fileDictsIn (fun j => j.isObj = true ∧ Dom j) f) {st : St}
    (hok : AllOk (env dj lt lb) cfg st (fileCalls di f))
    {L : ProgramLawsFrom (env dj lt lb) cfg st (fileCalls di f)} :
    expFile (env dj lt lb) cfg di st f L = normFile di f := by
  obtain ⟨hkm, hkd, hs⟩ := hf
  have hoc := hs.container
  obtain ⟨-, hokR⟩ := allOk_append.mp hok
  obtain ⟨hokM, hokD⟩ := allOk_append.mp hokR
  unfold expFile normFile
  simp only
  rw [containerDOpts_eq hoc (.inr rfl),
    expSec_eq hjson (fun _ => hin) newMeta (hs _ (by simp [fileSteps])) hokM,
    expSec_eq hjson (kind_ne_in hkd (by decide)) newDiff (hs _ (by simp [fileSteps])) hokD]

theorem expFiles_eq (hjson : JsonLaws Dom dj lt) {di : Nat} {fl : List FileSec} (hfl : ∀ f ∈ fl, FileWF di f)
    (hin : ∀ f ∈ fl, fileDictsIn (fun j => j.isObj = true ∧ Dom j) f) :
    ∀ {st : St} (_ : AllOk (env dj lt lb) cfg st (filesCalls di fl))
      {L : ProgramLawsFrom (env dj lt lb) cfg st (filesCalls di fl)},
      expFiles (env dj lt lb) cfg di st fl L = fl.map (normFile di) := by
  induction fl with
  | nil => intro st _ L; rfl
  | cons f fl ih =>
    intro st hok L
    obtain ⟨hokF, hokR⟩ := allOk_append.mp hok
    simp only [expFiles, List.map_cons]
    rw [expFile_eq hjson (hfl f List.mem_cons_self) (hin f List.mem_cons_self) hokF,
      ih (fun g hg => hfl g (List.mem_cons_of_mem _ hg)) (fun g hg => hin g (List.mem_cons_of_mem _ hg)) hokR]

theorem expChange_eq (hjson : JsonLaws Dom dj lt) {di : Nat} {c : ChangeSec} (hc : ChangeWF di c)
    (hin : changeDictsIn (fun j => j.isObj = true ∧ Dom j) c) {st : St}
    (hok : AllOk (env dj lt lb) cfg st (changeCalls di c))
    {L : ProgramLawsFrom (env dj lt lb) cfg st (changeCalls di c)} :
    expChange (env dj lt lb) cfg di st c L = normChange di c := by
  obtain ⟨hkp, hkm, hs, hfs⟩ := hc
  have hoc := hs.container
  obtain ⟨-, hokR⟩ := allOk_append.mp hok
  obtain ⟨hokP, hokR⟩ := allOk_append.mp hokR
  obtain ⟨hokM, hokF⟩ := allOk_append.mp hokR
  unfold expChange normChange
  simp only
  rw [containerDOpts_eq hoc (.inl rfl),
    expSec_eq hjson (kind_ne_in hkp (by decide)) newPreamble (hs _ (by simp [changeSteps])) hokP,
    expSec_eq hjson (fun _ => hin.1) newMeta (hs _ (by simp [changeSteps])) hokM,
    expFiles_eq hjson hfs hin.2 hokF]

theorem expChanges_eq (hjson : JsonLaws Dom dj lt) {di : Nat} {cl : List ChangeSec}
    (hcl : ∀ c ∈ cl, ChangeWF di c) (hin : ∀ c ∈ cl, changeDictsIn (fun j => j.isObj = true ∧ Dom j) c) :
    ∀ {st : St} (_ : AllOk (env dj lt lb) cfg st (changesCalls di cl))
      {L : ProgramLawsFrom (env dj lt lb) cfg st (changesCalls di cl)},
      expChanges (env dj lt lb) cfg di st cl L = cl.map (normChange di) := by
  induction cl with
  | nil => intro st _ L; rfl
  | cons c cl ih =>
    intro st hok L
    obtain ⟨hokC, hokR⟩ := allOk_append.mp hok
    simp only [expChanges, List.map_cons]
    rw [expChange_eq hjson (hcl c List.mem_cons_self) (hin c List.mem_cons_self) hokC,
      ih (fun g hg => hcl g (List.mem_cons_of_mem _ hg)) (fun g hg => hin g (List.mem_cons_of_mem _ hg)) hokR]

theorem expTree_eq (hjson : JsonLaws Dom dj lt) {di : Nat} {enc : Name} {t : Tree} (hk : TreeOk t)
    (hd : TreeDicts t) (hin : TreeDictsIn Dom t) (hs : StepsOk (steps di t))
    (henc : optText t.opts b!"encoding" = some enc) {st : St}
    (hok : AllOk (env dj lt lb) cfg st (treeCalls di t))
    {L : ProgramLawsFrom (env dj lt lb) cfg st (treeCalls di t)} :
    expTree (env dj lt lb) cfg di enc st t L = normalisedTree di t := by
  obtain ⟨hkp, hkm, hcs⟩ := wf_of_steps hk hs
  have hin := (treeDicts_in hd).and hin
  obtain ⟨hokP, hokR⟩ := allOk_append.mp hok
  obtain ⟨hokM, hokC⟩ := allOk_append.mp hokR
  unfold expTree normalisedTree
  simp only
  rw [henc,
    expSec_eq hjson (kind_ne_in hkp (by decide)) newPreamble (hs _ (by simp [steps])) hokP,
    expSec_eq hjson (fun _ => hin.1) newMeta (hs _ (by simp [steps])) hokM,
    expChanges_eq hjson hcs hin.2 hokC]
  rfl

end Env

theorem dictArgIn_callOf {Dom : Json → Prop} (di : Nat) {c : ContentSec}
    (hin : c.kind = .metadata → secDictIn Dom c) : dictArgIn Dom (callOf di c) := by
  obtain ⟨k, o, v⟩ := c
  cases k <;> cases v
  case metadata.dict => exact hin rfl _ rfl
  all_goals trivial

theorem mem_secCalls {di : Nat} {c : ContentSec} {call : Writer.Call} (hm : call ∈ secCalls di c) :
    call = callOf di c := by
  unfold secCalls at hm
  cases hcc : contentCall di c with
  | error e => rw [hcc] at hm; cases hm
  | ok oc =>
    cases oc with
    | none => rw [hcc] at hm; cases hm
    | some x =>
      rw [hcc] at hm
      cases List.mem_singleton.1 hm
      exact contentCall_some hcc

/-- A call of the walk comes from one of its steps, and a content section in a preamble or diff slot
is not a metadata section (`TreeOk`). -/
theorem dictsIn_tree {Dom : Json → Prop} (di : Nat) {t : Tree} (hk : TreeOk t) (hin : TreeDictsIn Dom t) :
    DictsIn Dom (treeCalls di t) := by
  refine (dictsIn_iff Dom _).mpr fun call hm => ?_
  rw [← steps_calls, List.mem_flatMap] at hm
  obtain ⟨s, hs, hm⟩ := hm
  have sec : ∀ c : ContentSec, (c.kind = .metadata → secDictIn Dom c) → s = contentCall di c →
      dictArgIn Dom call := by
    intro c hc e
    subst e
    rw [mem_secCalls hm]
    exact dictArgIn_callOf di hc
  have cont : ∀ (mk : Option Name → Writer.Call) (o : DOpts), (∀ e, dictArgIn Dom (mk e)) →
      s = containerCall mk o → dictArgIn Dom call := by
    intro mk o hmk e
    subst e
    cases h : containerCall mk o with
    | error e => rw [h] at hm; cases hm
    | ok oc =>
      rw [h, containerCall_enc h] at hm
      cases List.mem_singleton.1 hm
      exact hmk _
  obtain ⟨hp, -, hcs⟩ := treeOk_iff.mp hk
  simp only [steps, changeSteps, fileSteps, List.mem_append, List.mem_cons, List.mem_flatMap,
    List.not_mem_nil, or_false] at hs
  rcases hs with (rfl | rfl) | ⟨c, hc, (rfl | rfl | rfl) | ⟨f, hf, rfl | rfl | rfl⟩⟩
  · exact sec _ (kind_ne_in hp (by decide)) rfl
  · exact sec _ (fun _ => hin.1) rfl
  · exact cont Writer.Call.newChange _ (fun _ => trivial) rfl
  · exact sec _ (kind_ne_in (hcs c hc).1 (by decide)) rfl
  · exact sec _ (fun _ => (hin.2 c hc).1) rfl
  · exact cont Writer.Call.newFile _ (fun _ => trivial) rfl
  · exact sec _ (fun _ => (hin.2 c hc).2 f hf) rfl
  · exact sec _ (kind_ne_in ((hcs c hc).2.2 f hf).2 (by decide)) rfl

theorem dictArgs_iff (calls : List Writer.Call) : DictArgs calls ↔ DictsIn (·.isObj = true) calls := by
  refine ⟨fun h _ _ _ hm => h _ hm, fun h c hc => ?_⟩
  have hin := (dictsIn_iff _ calls).1 h c hc
  cases c with
  | metadata m _ _ =>
    cases m with
    | dict j => exact hin
    | _ => rfl
  | _ => rfl

theorem dictArgs_tree (di : Nat) {t : Tree} (hk : TreeOk t) (hd : TreeDicts t) : DictArgs (treeCalls di t) :=
  (dictArgs_iff _).2 (dictsIn_tree di hk (treeDicts_in hd))

section Env
variable {Dom : Json → Prop} {dj : Json → EnvR Text} {lt : Text → EnvR Json} {lb : Bytes → EnvR Json}

theorem re_preamble {st : St} {t : Text} {enc : Option Name} {indent : Option Int}
    {le : Option Text} (L : PreambleLaws (env dj lt lb) cfg st t enc indent le) :
    prepareContent (env dj lt lb) cfg st (.str (normText t (textDos le t))) indent (some L.leOut) enc true =
      .ok (L.data, L.leOut) := by
  have T := L.text
  obtain ⟨c, hc⟩ := lookup_of_encode T.henc
  have F := faithful dj lt lb _ c hc
  have N := newlines dj lt lb _ c hc
  obtain ⟨d, hd, -, hle5, -⟩ := T.prepared
  have hdos : T.dos = textDos le t := T.dos_eq
  have hleOut : L.leOut = leKind (textDos le t) := by rw [T.hle, hdos]
  have henc := T.henc
  have hbom := T.hbom
  rw [hdos] at henc
  have ht : t ≠ [] := prepare_str_ne L.hprep
  have hle : ∀ l, le = some l → ∃ dos, l = leKind dos := fun l h => ⟨_, (hle5 l h).trans hleOut⟩
  -- the original preparation
  obtain ⟨nl0, d0, h1, h2⟩ := prepareContent_ok_iff.mp L.hprep
  have h1' := prepCore_str_ok ht hle T.heff hd henc hbom
  rw [h1'] at h1
  injection h1 with h1
  simp only [Prod.mk.injEq] at h1
  obtain ⟨-, rfl, rfl⟩ := h1
  -- the text again, normalised, with the recorded kind
  have hdos' : textDos (some (leKind (textDos le t))) (normText t (textDos le t)) = textDos le t :=
    leKind_beq_dos _
  have ht' := normText_ne_nil ht (textDos le t)
  have hle' : ∀ l, some (leKind (textDos le t)) = some l → ∃ dos, l = leKind dos :=
    fun l h => ⟨_, (Option.some.inj h).symm⟩
  rw [hleOut]
  have hraw' : (env dj lt lb).encode (Text.ofAscii T.encName)
      (nlText (textDos (some (leKind (textDos le t))) (normText t (textDos le t)))) = .ok T.raw := by
    rw [hdos']; exact henc
  -- the normalised text encodes to the normalised bytes: the last stage gives the same bytes
  have hd' := F.encode_norm hd henc hbom (N.nl_suffix t _ d T.raw T.nl hd henc hbom)
  have h3 := prepCore_str_ok ht' hle' T.heff hd' hraw' hbom
  rw [hdos'] at h3
  exact prepareContent_ok_iff.mpr ⟨T.nl, _, h3, (prepFinish_norm indent T.nl d).trans h2⟩

theorem re_diff {st : St} {b : Bytes} {enc : Option Name} {le : Option Text}
    (L : DiffCallLaws (env dj lt lb) cfg st b enc le) :
    prepareContent (env dj lt lb) cfg st (.bytes L.data) none (some L.leOut) enc false = .ok (L.data, L.leOut) := by
  obtain ⟨hle, hdata, hc⟩ := diff_norm L
  have hb : b ≠ [] := prepare_bytes_ne L.hprep
  -- the loaded diff ends with the newline of the kind recorded, so preparing it again appends nothing
  have hnl : diffNl enc le b = (diffCodec enc).nl (diffDos (diffCodec enc) le b) := rfl
  rw [hnl] at hdata
  generalize diffDos (diffCodec enc) le b = dos at hle hdata
  generalize diffCodec enc = c at hc hdata
  have hne : L.data ≠ [] := hdata ▸ normBytes_ne_nil hb _
  have hends : endsWith L.data (c.nl dos) = true := by rw [hdata]; exact normBytes_ends _ _
  generalize L.data = data at hne hends
  rw [hle]
  obtain ⟨a, r, rfl⟩ := List.exists_cons_of_ne_nil hne
  refine prepareContent_ok_iff.mpr ⟨c.nl dos, a :: r, ?_, ?_⟩
  · -- `prepCore` on non-empty bytes with a declared kind, stage by stage: the content check passes; the kind is the
    -- declared one (`leKind_ne`, `leKind_beq_dos`); the newline is that of `enc or 'ascii'` (`nlEnc_getD`), encoded by
    -- the codec (`env_encode_nl`), and has no BOM to strip (`stripBom_own`); the bytes are returned as they are
    rw [prepCore]
    simp only [checkContent, checkLe, pick, effEncoding, nlEnc, leKind_ne, Bool.false_eq_true, if_false,
      Bool.and_false, nlEnc_getD L.encOk, leKind_beq_dos, env_encode_nl hc dos, liftEnv, stripBom_own hc (.inr rfl), bind,
      Except.bind, pure, Except.pure]
  · rw [prepFinish_none, normBytes_of_ends hends]

theorem reCall_any (hjson : JsonLaws Dom dj lt) {st : St} {c : Writer.Call}
    (hok : (Writer.step (env dj lt lb) cfg st c).2 = .ok) (hwf : dictArgOk c = true) (hdom : dictArgIn Dom c)
    (L : CallLaws (env dj lt lb) cfg st c) : ReCallLaws (env dj lt lb) cfg st c L := by
  cases c with
  | newChange enc => trivial
  | newFile enc => trivial
  | preamble text enc indent le mime =>
    cases text with
    | str t =>
      change PreambleLaws (env dj lt lb) cfg st t enc indent le at L
      show prepareContent (env dj lt lb) cfg st (.str L.text.decoded) indent (some L.leOut) enc true =
        .ok (L.data, L.leOut)
      rw [(preamble_norm hjson L).2]
      exact re_preamble L
    | _ => trivial
  | metadata m enc fmt =>
    cases m with
    | dict j =>
      obtain ⟨l, rfl⟩ := isObj_inv j hwf
      have hdom : Dom (.obj l) := hdom
      change MetaLaws (env dj lt lb) cfg st (.obj l) enc at L
      show L.parsed ≠ .obj [] ∧ (env dj lt lb).dumps L.parsed = .ok L.text
      rw [meta_norm hjson hdom L]
      refine ⟨?_, L.hdumps⟩
      obtain ⟨-, -, hpre, -⟩ := Writer.step_accepted hok
      intro h
      injection h with h
      subst h
      simp [Writer.pre] at hpre
    | _ => trivial
  | diff content dtype enc le =>
    cases content with
    | bytes d =>
      change DiffCallLaws (env dj lt lb) cfg st d enc le at L
      exact re_diff L
    | _ => trivial

theorem reLaws_any (hjson : JsonLaws Dom dj lt) {cs : List Writer.Call} : ∀ {st : St},
    AllOk (env dj lt lb) cfg st cs → DictArgs cs → DictsIn Dom cs →
    ∀ Ls : ProgramLawsFrom (env dj lt lb) cfg st cs, ReLawsFrom (env dj lt lb) cfg st cs Ls := by
  induction cs with
  | nil => intros; trivial
  | cons c cs ih =>
    intro st hok hwf hdom ⟨L, Ls⟩
    exact ⟨reCall_any hjson hok.1 (hwf c List.mem_cons_self) hdom.head L,
      ih hok.2 (fun c' h => hwf c' (List.mem_cons_of_mem _ h)) hdom.tail Ls⟩

end Env

/-- the call the DOM writer makes for a loaded section is the original call (`contentCall_loaded_*`), and it is
`callOf` of the section: so the arguments `callOf` reads off the loaded options are the original ones -/
theorem preambleOpts_read (di : Nat) (e : Option Name) (i : Option Int) (le : Text) (m : Option Text) :
    optText (preambleOpts e i le m) b!"encoding" = e ∧
    indentOf di (preambleOpts e i le m) = i ∧
    optText (preambleOpts e i le m) b!"line_endings" = some le ∧
    optText (preambleOpts e i le m) b!"mimetype" = m := by
  have h := contentCall_some (contentCall_loaded_preamble di e i le m (d := [0]) (List.cons_ne_nil _ _))
  injection h with _ h1 h2 h3 h4
  exact ⟨h1.symm, h2.symm, h3.symm, h4.symm⟩

theorem metaOpts_read (e : Option Name) (f : Text) : optText (metaOpts e f) b!"encoding" = e := by
  have h := contentCall_some (contentCall_loaded_meta 0 e f (j := .null) rfl)
  injection h with _ h1 _
  exact h1.symm

theorem diffOpts_read (e : Option Name) (le : Text) (ty : Option Text) :
    optText (diffOpts e le ty) b!"encoding" = e ∧ optText (diffOpts e le ty) b!"line_endings" = some le ∧
    typeOf (diffOpts e le ty) = ty := by
  have h := contentCall_some (contentCall_loaded_diff 0 e le ty (d := [0]) (List.cons_ne_nil _ _))
  injection h with _ h1 h2 h3
  exact ⟨h2.symm, h3.symm, h1.symm⟩

theorem normContainerOpts_idem (o : DOpts) : normContainerOpts (normContainerOpts o) = normContainerOpts o := by
  unfold normContainerOpts
  cases optText o b!"encoding" <;> rfl

theorem normPreamble_idem (di : Nat) (dflt : ContentSec) (o : DOpts) (t : Text) (ht : t ≠ []) :
    normSec di dflt (normPreamble di o t) = normPreamble di o t := by
  obtain ⟨h1, h2, h3, h4⟩ := preambleOpts_read di (optText o b!"encoding") (indentOf di o)
    (leKind (textDos (optText o b!"line_endings") t)) (optText o b!"mimetype")
  have htr := (truthy_str _).mpr (normText_ne_nil ht (textDos (optText o b!"line_endings") t))
  -- the kind recorded is read back as declared
  have hd : ∀ dos x, textDos (some (leKind dos)) x = dos := fun _ _ => leKind_beq_dos _
  unfold normSec
  simp only [normPreamble, htr, Bool.not_true, Bool.false_eq_true, if_false, h1, h2, h3, h4, hd, normText_idem]

theorem normDiff_idem (di : Nat) (dflt : ContentSec) (o : DOpts) (b : Bytes) (hb : b ≠ []) :
    normSec di dflt (normDiff o b) = normDiff o b := by
  obtain ⟨h1, h2, h3⟩ := diffOpts_read (optText o b!"encoding")
    (leKind (diffDos (diffCodec (optText o b!"encoding")) (optText o b!"line_endings") b)) (typeOf o)
  have htr := (truthy_bytes _).mpr
    (normBytes_ne_nil hb (diffNl (optText o b!"encoding") (optText o b!"line_endings") b))
  -- the kind recorded is read back as declared, so the newline is the same
  have hd : ∀ c dos x, diffDos c (some (leKind dos)) x = dos := fun _ _ _ => leKind_beq_dos _
  -- (unfolded by hand: a `congrArg _ (hd ..)` makes the unifier look through `diffCodec`, which is slow)
  have hn : ∀ e le b x, diffNl e (some (leKind (diffDos (diffCodec e) le b))) x = diffNl e le b := by
    intro e le b x
    unfold diffNl
    rw [hd]
  unfold normSec
  simp only [normDiff, htr, Bool.not_true, Bool.false_eq_true, if_false, h1, h2, h3, hd, hn, normBytes_idem]

theorem normMeta_idem (di : Nat) (dflt : ContentSec) (o : DOpts) (j : Json) (hj : (PyVal.dict j).truthy = true) :
    normSec di dflt (normMeta o j) = normMeta o j := by
  unfold normSec
  simp only [normMeta, hj, Bool.not_true, Bool.false_eq_true, if_false, metaOpts_read]

theorem normSec_idem (di : Nat) (dflt : ContentSec) (hdflt : dflt.content.truthy = false) (c : ContentSec) :
    normSec di dflt (normSec di dflt c) = normSec di dflt c := by
  have h0 : normSec di dflt dflt = dflt := normSec_skip hdflt
  obtain ⟨k, o, v⟩ := c
  by_cases htr : v.truthy = true
  · have hsel : ∀ x : ContentSec, (if (!v.truthy) = true then dflt else x) = x := by
      intro x; simp only [htr, Bool.not_true, Bool.false_eq_true, if_false]
    cases k <;> cases v
    case preamble.str t =>
      have e : normSec di dflt ⟨.preamble, o, .str t⟩ = normPreamble di o t := hsel _
      rw [e]
      exact normPreamble_idem di dflt o t ((truthy_str t).mp htr)
    case metadata.dict j =>
      have e : normSec di dflt ⟨.metadata, o, .dict j⟩ = normMeta o j := hsel _
      rw [e]
      exact normMeta_idem di dflt o j htr
    case diff.bytes b =>
      have e : normSec di dflt ⟨.diff, o, .bytes b⟩ = normDiff o b := hsel _
      rw [e]
      exact normDiff_idem di dflt o b ((truthy_bytes b).mp htr)
    -- a content that does not fit the kind: the section is `dflt`
    all_goals exact (congrArg (normSec di dflt) (hsel dflt)).trans (h0.trans (hsel dflt).symm)
  · have hf : v.truthy = false := by simpa using htr
    rw [normSec_skip (c := ⟨k, o, v⟩) hf, h0]

theorem normFile_idem (di : Nat) (f : FileSec) : normFile di (normFile di f) = normFile di f := by
  unfold normFile
  simp only [normContainerOpts_idem, normSec_idem di newMeta rfl, normSec_idem di newDiff rfl]

theorem normChange_idem (di : Nat) (c : ChangeSec) : normChange di (normChange di c) = normChange di c := by
  unfold normChange
  simp only [normContainerOpts_idem, normSec_idem di newMeta rfl, normSec_idem di newPreamble rfl,
    List.map_map]
  congr 1
  exact List.map_congr_left (fun f _ => normFile_idem di f)

end Diffx.DomConc
