import DiffxVerif.Lemmas.Table
import DiffxVerif.Lemmas.Encoding
import DiffxVerif.Lemmas.WriterStep
import DiffxVerif.Lemmas.ReaderStep
/-!
# Section order in the reader and in the writer

Reader: an iteration yields a section out of `l.valid` and leaves `validNext` of it
(`stepSection_valid`), so the sections of a run form a chain (`readLoop_chain`).
Writer: the order check is `validate` (`validate_ok_iff`); here the invariant that makes the level
used to build section ids the hierarchy's nesting level (`LevelInv`, `step_levelInv`), and the calls
C09 and C04 say are refused whatever the order (a negative indent, an unrepresentable encoding name).
-/

namespace Diffx
open Diffx.Header

namespace Reader
theorem stepSection_valid {env : Env} {cfg : Config} {chunk : Nat} {l : Loop} {r : Record} {l' : Loop}
    (h : stepSection env cfg chunk l = .ok (some (r, l'))) :
    r.sec ∈ l.valid ∧ l'.valid = validNext r.sec := by
  obtain ⟨hdr, ln, st, hh, hs⟩ := stepSection_ok_iff.1 h
  obtain ⟨_, rfl, hv, _⟩ := stepHdr_ok hs
  exact ⟨readHeader_ok_mem hh, hv⟩

theorem readLoop_chain {env : Env} {cfg : Config} {chunk : Nat} (fuel : Nat) {l : Loop} {p : SecId}
    (hl : l.valid = validNext p) :
    Spec.chainOk p ((readLoop env cfg chunk fuel l).1.map (·.sec)) = true := by
  induction fuel, l using readLoop_induct env cfg chunk generalizing p with
  | zero l => rfl
  | error fuel l o hs =>
    rw [readLoop_error fuel hs]
    rfl
  | done fuel l hs =>
    rw [readLoop_done fuel hs]
    rfl
  | cons fuel l r l' hs ih =>
    obtain ⟨h1, h2⟩ := stepSection_valid hs
    rw [readLoop_cons fuel hs]
    simp only [List.map_cons, Spec.chainOk, Bool.and_eq_true, List.contains_iff_mem]
    rw [hl] at h1
    exact ⟨validNext_iff_spec.1 h1, ih h2⟩

end Reader
end Diffx

namespace Diffx.Writer
open Diffx

/-- nesting depth of the section an id names -/
def depth (p : SecId) : Nat :=
  if p.name = .diffx ∨ p.name = .change ∨ p.name = .file then p.level else p.level - 1

/-- the stack depth matches the previously written section -/
def LevelInv (st : St) : Prop := ∃ p, st.prev = some p ∧ st.stack.length = depth p + 2

theorem pushFrame_length {stack : List (Option Name)} {level : Nat} (enc : Option Name) (h : level ≤ stack.length) :
    (pushFrame stack level enc).length = level + 1 := by
  rw [pushFrame_eq enc h, List.length_append, List.length_take, Nat.min_eq_left h, List.length_singleton]

theorem file_mem_validNext {p : SecId} (h : (⟨2, .file⟩ : SecId) ∈ validNext p) : 1 ≤ depth p :=
  forall_validNext (P := fun p t => t = ⟨2, .file⟩ → 1 ≤ depth p) (by decide) h rfl

/-- `hf`: a file needs an open change -/
theorem newStack_length (st : St) (c : Call) (h2 : 2 ≤ st.stack.length)
    (hf : ∀ enc, c = .newFile enc → 3 ≤ st.stack.length) :
    (newStack st c).length = depth (secOf st c) + 2 := by
  cases c with
  | newChange enc => exact pushFrame_length enc h2
  | newFile enc => exact pushFrame_length enc (hf enc rfl)
  | preamble | metadata | diff =>
    show st.stack.length = st.stack.length - 1 - 1 + 2
    omega

theorem step_levelInv (env : Env) (cfg : Config) (st : St) (c : Call) (hi : LevelInv st) :
    LevelInv (step env cfg st c).1 := by
  by_cases h : (step env cfg st c).2 = .ok
  · obtain ⟨b, _, _, hv, _, he⟩ := step_accepted h
    obtain ⟨p, hp, hl⟩ := hi
    have hm := (validate_ok_iff _ _).1 hv p hp
    rw [he]
    refine ⟨secOf st c, rfl, newStack_length st c (by omega) fun enc hc => ?_⟩
    subst hc
    have := file_mem_validNext hm
    omega
  · rw [step_atomic env cfg st c h]
    exact hi

theorem init_levelInv (enc : Option Name) (ver : Text) (hi : (init enc ver).2 = .ok) :
    LevelInv (init enc ver).1 := by
  obtain ⟨b, _, h⟩ := init_ok_inv hi
  rw [h]
  exact ⟨⟨0, .diffx⟩, rfl, pushFrame_length enc (Nat.le_refl 1)⟩

/-- a `str` text gets `DiffXOptionValueError` whatever the mimetype is: for the indent, or already
for the mimetype, which is checked first -/
theorem pre_preamble_negative (env : Env) (text : Arg) (enc : Option Name) (n : Int) (hn : n < 0)
    (le mime : Option Text) :
    pre env (.preamble text enc (some n) le mime) =
      some (match text with | .str _ => .optionError | _ => .contentError) := by
  cases text with
  | str t =>
    cases mime with
    | none => simp [pre, preIndent, hn]
    | some m => by_cases hm : m ∈ mimetypes <;> simp [pre, preIndent, hn, hm]
  | bytes | dict | other => rfl

theorem step_container_refused (env : Env) (cfg : Config) {st : St} {c : Call} {n : Name}
    (hc : c = .newChange (some n) ∨ c = .newFile (some n)) (hv : valueRefused (.str n) = true)
    (ho : ∀ p, st.prev = some p → secOf st c ∈ Spec.next p) :
    step env cfg st c = (st, .optionError) := by
  have hval : validate st (secOf st c) = .ok () :=
    (validate_ok_iff _ _).2 (fun q hq => validNext_iff_spec.2 (ho q hq))
  rw [step_eq, hval]
  rcases hc with rfl | rfl
  · simp only [pre, payload, containerPayload_refused _ _ _ _ hv]
  · simp only [pre, payload, containerPayload_refused _ _ _ _ hv]

theorem init_ok_truthy {enc : Option Name} {ver : Text} (hi : (init enc ver).2 = .ok) :
    enc = none ∨ truthy enc = true := by
  cases enc with
  | none => exact .inl rfl
  | some n =>
    right
    have h := (valueRefused_str_false (init_ok_enc hi)).2.1
    cases n with
    | nil => simp [Header.valOk, Text.toAscii] at h
    | cons a r => rfl

end Diffx.Writer
