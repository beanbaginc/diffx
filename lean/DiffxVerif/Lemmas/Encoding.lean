import DiffxVerif.Model.Reader
import DiffxVerif.Model.Writer
import DiffxVerif.Spec.Encoding
/-!
# Encoding inheritance: both stacks are the closed form `Spec.inhStack`

The implementations push already-inherited values on a stack;
the specification (`Spec/Encoding.lean`) keeps the own declarations of the open
containers.  `Spec.inhStack b anc` is the closed form relating both: a bottom
entry `b` followed by one `nearest` value per open container.  The reader's and
the writer's stack updates both amount to `take (lvl + 1)` followed by a push,
which `Spec.inhStack_step` shows to be `Spec.openStep` on the declarations.
-/
namespace Diffx.Spec

variable {ε : Type}

theorem nearest_append_singleton (l : List (Option ε)) (own : Option ε) :
    nearest (l ++ [own]) = own.or (nearest l) := by
  induction l with
  | nil => cases own <;> rfl
  | cons a r ih =>
    simp only [List.cons_append, nearest, ih]
    cases own <;> rfl

theorem nearest_map_list {α β : Type} (f : α → β) (l : List (Option α)) :
    nearest (l.map (Option.map f)) = (nearest l).map f := by
  induction l with
  | nil => rfl
  | cons a r ih =>
    simp only [List.map_cons, nearest, ih]
    cases nearest r <;> rfl

theorem openDecls_append (cs ds : List (Nat × Option ε)) :
    openDecls (cs ++ ds) = ds.foldl openStep (openDecls cs) := by
  simp [openDecls, List.foldl_append]

theorem openDecls_cons (c : Nat × Option ε) (cs : List (Nat × Option ε)) :
    openDecls (c :: cs) = cs.foldl openStep [c.2] := by
  simp [openDecls, openStep]

theorem foldl_openStep_map {α β : Type} (f : α → β) (cs : List (Nat × Option α))
    (anc : List (Option α)) :
    (cs.map fun c => (c.1, c.2.map f)).foldl openStep (anc.map (Option.map f)) =
      (cs.foldl openStep anc).map (Option.map f) := by
  induction cs generalizing anc with
  | nil => rfl
  | cons c cs ih =>
    simp only [List.map_cons, List.foldl_cons]
    have : openStep (anc.map (Option.map f)) (c.1, c.2.map f) = (openStep anc c).map (Option.map f) := by
      simp [openStep, List.map_take]
    rw [this, ih]

theorem openStep_length (anc : List (Option ε)) (c : Nat × Option ε) (h : c.1 ≤ anc.length) :
    (openStep anc c).length = c.1 + 1 := by
  simp [openStep, List.length_take, Nat.min_eq_left h]

theorem foldl_openStep_head (a : Option ε) (anc : List (Option ε)) (cs : List (Nat × Option ε))
    (h : ∀ c ∈ cs, 1 ≤ c.1) :
    ∃ t, cs.foldl openStep (a :: anc) = a :: t := by
  induction cs generalizing anc with
  | nil => exact ⟨anc, rfl⟩
  | cons c cs ih =>
    have hc : 1 ≤ c.1 := h c (List.mem_cons_self ..)
    obtain ⟨n, hn⟩ : ∃ n, c.1 = n + 1 := ⟨c.1 - 1, by omega⟩
    simp only [List.foldl_cons, openStep, hn, List.take_succ_cons, List.cons_append]
    exact ih _ (fun d hd => h d (List.mem_cons_of_mem _ hd))

theorem nested_append (anc : List (Option ε)) (cs ds : List (Nat × Option ε)) :
    Nested anc (cs ++ ds) ↔ Nested anc cs ∧ Nested (cs.foldl openStep anc) ds := by
  induction cs generalizing anc with
  | nil => simp [Nested]
  | cons c cs ih => simp [Nested, ih, and_assoc]

theorem foldl_openStep_ne_nil (anc : List (Option ε)) (cs : List (Nat × Option ε)) (h : anc ≠ []) :
    cs.foldl openStep anc ≠ [] := by
  induction cs generalizing anc with
  | nil => exact h
  | cons c cs ih => exact ih _ (by simp [openStep])

/-- bottom entry `b`, then for every open container the nearest declaration at
or above it -/
def inhStack (b : Option ε) (anc : List (Option ε)) : List (Option ε) :=
  b :: (List.range anc.length).map (fun i => nearest (anc.take (i + 1)))

theorem inhStack_length (b : Option ε) (anc : List (Option ε)) :
    (inhStack b anc).length = anc.length + 1 := by
  simp [inhStack]

theorem inhStack_snoc (b : Option ε) (anc : List (Option ε)) (x : Option ε) :
    inhStack b (anc ++ [x]) = inhStack b anc ++ [nearest (anc ++ [x])] := by
  simp only [inhStack, List.length_append, List.length_singleton, List.range_succ, List.map_append,
    List.map_cons, List.map_nil, List.cons_append, List.cons.injEq, true_and]
  congr 1
  · apply List.map_congr_left
    intro i hi
    rw [List.mem_range] at hi
    rw [List.take_append_of_le_length (by omega)]
  · rw [List.take_of_length_le (by simp)]

theorem inhStack_take (b : Option ε) (anc : List (Option ε)) (lvl : Nat) (h : lvl ≤ anc.length) :
    (inhStack b anc).take (lvl + 1) = inhStack b (anc.take lvl) := by
  simp only [inhStack, List.take_succ_cons, List.cons.injEq, true_and, ← List.map_take,
    List.take_range, List.length_take, Nat.min_eq_left h]
  apply List.map_congr_left
  intro i hi
  rw [List.mem_range] at hi
  rw [List.take_take, Nat.min_eq_left (by omega)]

theorem inhStack_getLast (b : Option ε) (anc : List (Option ε)) (h : anc ≠ [] ∨ b = none) :
    ((inhStack b anc).getLast?).getD none = nearest anc := by
  rcases List.eq_nil_or_concat anc with rfl | ⟨l, x, rfl⟩
  · rcases h with h | h
    · exact absurd rfl h
    · subst h; rfl
  · rw [List.concat_eq_append, inhStack_snoc]; simp

theorem inhStack_step (b : Option ε) (anc : List (Option ε)) (lvl : Nat) (own : Option ε)
    (h : lvl ≤ anc.length) (hb : 1 ≤ lvl ∨ b = none) :
    (inhStack b anc).take (lvl + 1) ++
        [own.or ((((inhStack b anc).take (lvl + 1)).getLast?).getD none)] =
      inhStack b (openStep anc (lvl, own)) := by
  have hne : anc.take lvl ≠ [] ∨ b = none := by
    rcases hb with hb | hb
    · left
      intro h0
      have := congrArg List.length h0
      simp [List.length_take, Nat.min_eq_left h] at this
      omega
    · exact Or.inr hb
  rw [inhStack_take b anc lvl h, inhStack_getLast b _ hne, openStep, inhStack_snoc,
    nearest_append_singleton]

end Diffx.Spec

namespace Diffx.Reader
open Diffx Diffx.Spec

/-- the reader's `(encodings, prev_container_level)` update for one container header -/
def encStep (s : List (Option OptVal) × Nat) (c : SecId × Option OptVal) :
    List (Option OptVal) × Nat :=
  (pushEnc s.1 s.2 c.1 c.2, c.1.level)

theorem topEnc_eq (e : List (Option OptVal)) : topEnc e = (e.getLast?).getD none := rfl

theorem pushEnc_eq {encs : List (Option OptVal)} {prev : Nat} {sec : SecId} (own : Option OptVal)
    (hm : sec ≠ SecId.main) (hlen : encs.length = prev + 2) (hl : sec.level ≤ prev + 1) :
    pushEnc encs prev sec own =
      encs.take (sec.level + 1) ++ [own.or (topEnc (encs.take (sec.level + 1)))] := by
  have hkeep : (if sec ≠ SecId.main ∧ sec.level ≤ prev then encs.take (encs.length - (prev - sec.level + 1))
      else encs) = encs.take (sec.level + 1) := by
    by_cases hle : sec.level ≤ prev
    · rw [if_pos ⟨hm, hle⟩]
      congr 1
      omega
    · rw [if_neg (fun h => hle h.2), List.take_of_length_le (by omega)]
  simp only [pushEnc, hkeep]
  cases own <;> rfl

theorem pushEnc_inhStack (anc : List (Option OptVal)) (sec : SecId) (own : Option OptVal)
    (hanc : anc ≠ []) (hsec : sec = SecId.change ∨ sec = SecId.file) (hl : sec.level ≤ anc.length) :
    pushEnc (inhStack none anc) (anc.length - 1) sec own =
      inhStack none (openStep anc (sec.level, own)) := by
  have hpos : 0 < anc.length := List.length_pos_iff.mpr hanc
  have hmain : sec ≠ SecId.main := by
    rcases hsec with h | h <;> subst h <;> decide
  rw [pushEnc_eq _ hmain (by rw [inhStack_length]; omega) (by omega)]
  exact inhStack_step none anc sec.level own hl (Or.inr rfl)

theorem foldl_encStep (anc : List (Option OptVal)) (rest : List (SecId × Option OptVal))
    (hanc : anc ≠ [])
    (hrest : ∀ c ∈ rest, c.1 = SecId.change ∨ c.1 = SecId.file)
    (hn : Nested anc (rest.map fun c => (c.1.level, c.2))) :
    (rest.foldl (fun s c => (pushEnc s.1 s.2 c.1 c.2, c.1.level)) (inhStack none anc, anc.length - 1)).1 =
      inhStack none ((rest.map fun c => (c.1.level, c.2)).foldl openStep anc) := by
  induction rest generalizing anc with
  | nil => rfl
  | cons c rest ih =>
    simp only [List.map_cons, Nested] at hn
    simp only [List.foldl_cons, List.map_cons]
    rw [pushEnc_inhStack anc c.1 c.2 hanc (hrest c (List.mem_cons_self ..)) hn.1]
    have hlen : (openStep anc (c.1.level, c.2)).length = c.1.level + 1 :=
      openStep_length anc (c.1.level, c.2) hn.1
    have := ih (openStep anc (c.1.level, c.2)) (by simp [openStep])
      (fun d hd => hrest d (List.mem_cons_of_mem _ hd)) hn.2
    rw [hlen, Nat.add_sub_cancel] at this
    exact this

end Diffx.Reader

namespace Diffx.Writer
open Diffx Diffx.Spec

/-- what a call declares: a falsy `encoding` argument declares nothing -/
def declared (e : Option Name) : Option Name := if truthy e then e else none

theorem ite_truthy_eq_declared_or (e top : Option Name) :
    (if truthy e then e else top) = (declared e).or top := by
  unfold declared
  cases h : truthy e
  · simp
  · cases e with
    | none => simp [truthy] at h
    | some v => simp

theorem pushFrame_eq {stack : List (Option Name)} {level : Nat} (enc : Option Name)
    (h : level ≤ stack.length) :
    pushFrame stack level enc =
      stack.take level ++ [if truthy enc then enc else ((stack.take level).getLast?).getD none] := by
  have e : stack.length - (stack.length - 1 + 1 - level) = level := by omega
  simp only [pushFrame, e]

/-- `level` is the writer's numbering, one more than the nesting level -/
theorem pushFrame_inhStack (b : Option Name) (anc : List (Option Name)) (level : Nat) (e : Option Name)
    (h1 : 2 ≤ level) (hl : level - 1 ≤ anc.length) :
    pushFrame (inhStack b anc) level e = inhStack b (openStep anc (level - 1, declared e)) := by
  obtain ⟨lvl, rfl⟩ : ∃ lvl, level = lvl + 1 := ⟨level - 1, by omega⟩
  simp only [Nat.add_sub_cancel] at hl ⊢
  rw [pushFrame_eq _ (by rw [inhStack_length]; omega), ite_truthy_eq_declared_or]
  exact inhStack_step b anc lvl (declared e) hl (Or.inl (by omega))

theorem foldl_pushFrame (b : Option Name) (anc : List (Option Name)) (cs : List (Nat × Option Name))
    (hl : ∀ c ∈ cs, c.1 = 2 ∨ c.1 = 3)
    (hn : Nested anc (cs.map fun c => (c.1 - 1, declared c.2))) :
    cs.foldl (fun s c => pushFrame s c.1 c.2) (inhStack b anc) =
      inhStack b ((cs.map fun c => (c.1 - 1, declared c.2)).foldl openStep anc) := by
  induction cs generalizing anc with
  | nil => rfl
  | cons c cs ih =>
    simp only [List.map_cons, Nested] at hn
    simp only [List.foldl_cons, List.map_cons]
    have h2 : 2 ≤ c.1 := by rcases hl c (List.mem_cons_self ..) with h | h <;> omega
    rw [pushFrame_inhStack b anc c.1 c.2 h2 hn.1]
    exact ih _ (fun d hd => hl d (List.mem_cons_of_mem _ hd)) hn.2

end Diffx.Writer
