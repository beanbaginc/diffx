import DiffxVerif.Spec.Document
import DiffxVerif.Lemmas.SpecRead
/-!
# One reader iteration on a rendered section

No reading context and no writer: a section is a `Spec.Sec`, the stream starts with
`Spec.renderSec crlf s`, and the iteration is `Reader.stepHdr` on the parsed header, positioned at
the content (`stepSection_rendered`).  Both whole-file simulations (writer ↔ reader,
specification ↔ reader) start from here.
-/
namespace Diffx.SpecFile
open Diffx Diffx.Spec Diffx.Header Diffx.Reader

theorem optsOf_get (s : Sec) (k : Bytes) : (optsOf s).get k = (s.get k).map convert :=
  Assoc.lookup_map_snd convert s.opts k

theorem optsOf_eq_reported (s : Sec) (hd : (s.opts.map (·.1)).Nodup) : optsOf s = Spec.reported s.opts :=
  (reported_eq_map hd).symm

theorem blankLines_render (ls : List Bytes) (h : ∀ l ∈ ls, ∀ b ∈ l, isWs b = true ∧ b ≠ 10) :
    BlankLines (renderBlank ls) := by
  refine ⟨ls, rfl, ?_⟩
  intro l hl
  exact ⟨fun b hb => (h l hl b hb).1, fun hm => (h l hl 10 hm).2 rfl⟩

theorem readHeader_skip_blank {chunk : Nat} (hc : 0 < chunk) {valid : List SecId} {blank : Bytes} (rest : Bytes)
    {ln : Nat} {f : Option Bool} (hb : BlankLines blank) :
    readHeader chunk valid ⟨blank ++ rest, ln, f⟩ = readHeader chunk valid ⟨rest, ln, f⟩ := by
  rw [readHeader_eq, readHeader_eq]
  simp only
  rw [nextLine_skip_blank hc (f₂ := rest.length + 1) hb (by omega) (by omega)]

theorem headerNl_beq (crlf : Bool) : (headerNl crlf == [13, 10]) = crlf := by
  cases crlf <;> rfl

theorem renderSec_append (crlf : Bool) (s : Sec) (post : Bytes) :
    renderSec crlf s ++ post =
      renderBlank s.blank ++ (headerLine s.id s.opts ++ headerNl crlf ++ (s.content ++ post)) := by
  simp [renderSec, List.append_assoc]

end Diffx.SpecFile

namespace Diffx.Reader
open Diffx Diffx.Spec Diffx.Header

/-- `hnl`: `_file_newlines` is still unset, or is the convention the section is rendered in -/
theorem readHeader_rendered {chunk : Nat} (hc : 0 < chunk) (crlf : Bool) {s : Sec} {valid : List SecId}
    (hv : s.id ∈ valid) (hg : GrammarOk s.id s.opts) (hd : (s.opts.map (·.1)).Nodup)
    (hb : ∀ x ∈ s.blank, ∀ b ∈ x, isWs b = true ∧ b ≠ 10) (ln : Nat) {f : Option Bool}
    (hnl : f = none ∨ f = some crlf) (post : Bytes) :
    readHeader chunk valid ⟨renderSec crlf s ++ post, ln, f⟩ =
      .ok (some (⟨s.id, optsOf s⟩, ln, ⟨s.content ++ post, ln + 1, some crlf⟩)) := by
  have hp : parseHeader valid (headerLine s.id s.opts) = .ok ⟨s.id, optsOf s⟩ := by
    rw [parseHeader_headerLine hg hv, reported_eq_map hd]
    rfl
  have hh := readHeader_exact hc (headerNl crlf) (s.content ++ post) ln f
    (by cases crlf <;> simp [headerNl]) (by rw [SpecFile.headerNl_beq]; exact hnl) hp
  rw [SpecFile.headerNl_beq] at hh
  rw [SpecFile.renderSec_append,
    SpecFile.readHeader_skip_blank hc _ (SpecFile.blankLines_render s.blank hb), hh]

theorem stepSection_rendered {env : Env} {cfg : Config} {chunk : Nat} (hc : 0 < chunk) {crlf : Bool} {s : Sec}
    {l : Loop} (hv : s.id ∈ l.valid) (hg : GrammarOk s.id s.opts) (hd : (s.opts.map (·.1)).Nodup)
    (hb : ∀ x ∈ s.blank, ∀ b ∈ x, isWs b = true ∧ b ≠ 10)
    (hnl : l.st.fileCrlf = none ∨ l.st.fileCrlf = some crlf) {post : Bytes}
    (hrest : l.st.rest = renderSec crlf s ++ post) :
    stepSection env cfg chunk l =
      stepHdr env cfg l.encodings l.prevLevel ⟨s.id, optsOf s⟩ l.st.linenum
        ⟨s.content ++ post, l.st.linenum + 1, some crlf⟩ := by
  obtain ⟨⟨rest, ln, f⟩, valid, encs, prev⟩ := l
  simp only at hv hnl hrest ⊢
  subst hrest
  rw [stepSection_chain]
  simp only
  rw [readHeader_rendered hc crlf hv hg hd hb ln hnl post]
  rfl

theorem stepSection_trailer {env : Env} {cfg : Config} {chunk : Nat} (hc : 0 < chunk) {l : Loop}
    (trailer : List Bytes) (ht : ∀ t ∈ trailer, ∀ b ∈ t, isWs b = true ∧ b ≠ 10)
    (h : l.st.rest = renderBlank trailer) : stepSection env cfg chunk l = .ok none := by
  obtain ⟨⟨rest, ln, f⟩, valid, encs, prev⟩ := l
  simp only at h
  subst h
  have h0 := stepSection_nil env cfg chunk (l := ⟨⟨[], ln, f⟩, valid, encs, prev⟩) rfl
  rw [stepSection_chain] at h0 ⊢
  simp only at h0 ⊢
  rw [← List.append_nil (renderBlank trailer),
    SpecFile.readHeader_skip_blank hc [] (SpecFile.blankLines_render trailer ht)]
  exact h0

end Diffx.Reader
