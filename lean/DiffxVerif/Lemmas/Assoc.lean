/-!
# Association lists: `List.lookup`, and a dictionary assignment on them

The model keeps header options, DOM options and JSON objects as lists of pairs read with
`List.lookup`; `dict[k] = v` is written three times with the same body (`Opts.set`, `DOpts.set`,
`objSet`), which `Assoc.set` repeats so that `lookup_set` can be stated once.  `Assoc.all f a b`
compares two such lists whatever their order (the model's `DOpts.pyEq` and `jsonPyEqObj`).
-/
namespace Diffx.Assoc

variable {K : Type} [BEq K] [LawfulBEq K] {α β : Type}

omit [LawfulBEq K] in
theorem lookup_cons_ite (q k : K) (w : α) (l : List (K × α)) :
    ((q, w) :: l).lookup k = if k == q then some w else l.lookup k := by
  rw [List.lookup_cons]
  cases k == q <;> rfl

theorem lookup_mem {l : List (K × α)} {k : K} {v : α} (h : l.lookup k = some v) : (k, v) ∈ l := by
  obtain ⟨l₁, l₂, rfl, -⟩ := List.lookup_eq_some_iff.1 h
  simp

theorem lookup_none_iff {l : List (K × α)} {k : K} : l.lookup k = none ↔ k ∉ l.map (·.1) := by
  rw [List.lookup_eq_none_iff]
  constructor
  · rintro h hk
    obtain ⟨p, hp, rfl⟩ := List.mem_map.1 hk
    simpa using h p hp
  · intro h p hp
    rw [bne_iff_ne]
    rintro rfl
    exact h (List.mem_map_of_mem hp)

theorem lookup_none_iff_any {l : List (K × α)} {k : K} :
    l.lookup k = none ↔ l.any (·.1 == k) = false := by
  rw [lookup_none_iff, List.any_eq_false]
  constructor
  · intro h p hp hk
    exact h (List.mem_map.2 ⟨p, hp, eq_of_beq hk⟩)
  · rintro h hk
    obtain ⟨p, hp, rfl⟩ := List.mem_map.1 hk
    exact h p hp (beq_self_eq_true _)

theorem lookup_of_mem_nodup {l : List (K × α)} {k : K} {v : α} (hn : (l.map (·.1)).Nodup)
    (h : (k, v) ∈ l) : l.lookup k = some v := by
  obtain ⟨l₁, l₂, rfl⟩ := List.append_of_mem h
  rw [List.map_append, List.map_cons, List.nodup_append] at hn
  rw [List.lookup_append, lookup_none_iff.2 fun hk => hn.2.2 k hk k (by simp) rfl]
  simp

omit [LawfulBEq K] in
theorem lookup_map_snd (f : α → β) (l : List (K × α)) (k : K) :
    (l.map fun p => (p.1, f p.2)).lookup k = (l.lookup k).map f := by
  induction l with
  | nil => rfl
  | cons p l ih =>
    obtain ⟨q, w⟩ := p
    simp only [List.map_cons, lookup_cons_ite, ih]
    cases k == q <;> rfl

/-- `dict[k] = v`: replace in place, or append -/
def set (l : List (K × α)) (k : K) (v : α) : List (K × α) :=
  if l.any (·.1 == k) then l.map (fun p => if p.1 == k then (k, v) else p) else l ++ [(k, v)]

theorem lookup_map_set (l : List (K × α)) (k k' : K) (v : α) :
    (l.map fun p => if p.1 == k then (k, v) else p).lookup k' =
      if k' == k then (l.lookup k).map fun _ => v else l.lookup k' := by
  induction l with
  | nil => simp
  | cons p l ih =>
    obtain ⟨q, w⟩ := p
    rw [List.map_cons, lookup_cons_ite q k]
    by_cases hq : q = k
    · subst hq
      by_cases hk : k' = q <;> simp [lookup_cons_ite, hk, ih]
    · by_cases hk : k' = k
      · subst hk
        simp [lookup_cons_ite, hq, Ne.symm hq, ih]
      · simp [lookup_cons_ite, hq, hk, ih]

theorem lookup_set (l : List (K × α)) (k k' : K) (v : α) :
    (set l k v).lookup k' = if k' == k then some v else l.lookup k' := by
  unfold set
  by_cases ha : l.any (·.1 == k) = true
  · rw [if_pos ha, lookup_map_set]
    by_cases hk : k' = k
    · cases hl : l.lookup k with
      | none => rw [lookup_none_iff_any.1 hl] at ha; cases ha
      | some w => simp [hk]
    · simp [hk]
  · rw [if_neg ha, List.lookup_append]
    by_cases hk : k' = k
    · subst hk
      rw [lookup_none_iff_any.2 (Bool.eq_false_iff.2 ha)]
      simp
    · simp [hk, lookup_cons_ite]

theorem find?_of_mem_nodup {l : List (K × α)} (h : (l.map (·.1)).Nodup) {k : K} {v : α} (hm : (k, v) ∈ l) :
    l.find? (·.1 == k) = some (k, v) := by
  induction l with
  | nil => cases hm
  | cons p r ih =>
    rw [List.map_cons, List.nodup_cons] at h
    rcases List.mem_cons.mp hm with rfl | hm
    · simp
    · have hne : p.1 ≠ k := by
        intro e
        exact h.1 (List.mem_map.mpr ⟨(k, v), hm, e.symm⟩)
      rw [List.find?_cons_of_neg (by simpa using hne)]
      exact ih h.2 hm

theorem subset_of_nodup_of_length_le {a b : List K} (hn : a.Nodup) (hs : ∀ x ∈ a, x ∈ b)
    (hl : b.length ≤ a.length) : ∀ x ∈ b, x ∈ a := by
  intro x hx
  refine Decidable.byContradiction fun hxa => ?_
  -- otherwise `a` fits into `b` without `x`, which is shorter than `a`
  have h := hn.length_le_of_subset (l₂ := b.erase x)
    (fun y hy => (List.mem_erase_of_ne (by rintro rfl; exact hxa hy)).2 (hs y hy))
  rw [List.length_erase_of_mem hx] at h
  have := List.length_pos_of_mem hx
  omega

/-- the key of `p` is in `b`, with a value that `f` accepts next to `p`'s -/
def find (f : α → β → Bool) (b : List (K × β)) (p : K × α) : Bool :=
  match b.lookup p.1 with | some v => f p.2 v | none => false
def all (f : α → β → Bool) (a : List (K × α)) (b : List (K × β)) : Bool :=
  a.all (find f b)

omit [LawfulBEq K] in
theorem all_iff (f : α → β → Bool) (a : List (K × α)) (b : List (K × β)) :
    all f a b = true ↔ ∀ p ∈ a, ∃ w, b.lookup p.1 = some w ∧ f p.2 w = true := by
  unfold all
  rw [List.all_eq_true]
  unfold find
  constructor
  · intro h p hp
    have := h p hp
    split at this
    · exact ⟨_, by assumption, this⟩
    · simp at this
  · intro h p hp
    obtain ⟨w, hw, hf⟩ := h p hp
    simp only [hw, hf]

theorem all_refl (f : α → α → Bool) (a : List (K × α)) (hn : (a.map (·.1)).Nodup)
    (hf : ∀ p ∈ a, f p.2 p.2 = true) : all f a a = true := by
  rw [all_iff]
  intro p hp
  exact ⟨p.2, lookup_of_mem_nodup hn hp, hf p hp⟩

theorem all_swap (f : α → β → Bool) (g : β → α → Bool) (a : List (K × α)) (b : List (K × β))
    (hl : a.length = b.length) (ha : (a.map (·.1)).Nodup) (hb : (b.map (·.1)).Nodup)
    (hfg : ∀ p ∈ a, ∀ q ∈ b, f p.2 q.2 = g q.2 p.2)
    (h : all f a b = true) : all g b a = true := by
  rw [all_iff] at h ⊢
  have hsub : ∀ k ∈ a.map (·.1), k ∈ b.map (·.1) := by
    intro k hk
    obtain ⟨p, hp, rfl⟩ := List.mem_map.1 hk
    obtain ⟨w, hw, _⟩ := h p hp
    exact List.mem_map_of_mem (f := (·.1)) (lookup_mem hw)
  have hsup := subset_of_nodup_of_length_le ha hsub (by simp [hl])
  intro q hq
  obtain ⟨p, hp, hpq⟩ := List.mem_map.1 (hsup q.1 (List.mem_map_of_mem (f := (·.1)) hq))
  refine ⟨p.2, ?_, ?_⟩
  · rw [← hpq]; exact lookup_of_mem_nodup ha hp
  · obtain ⟨w, hw, hfw⟩ := h p hp
    have : b.lookup p.1 = some q.2 := by
      rw [hpq]; exact lookup_of_mem_nodup hb hq
    rw [this] at hw
    injection hw with hw
    subst hw
    rw [← hfg p hp q hq]; exact hfw

theorem all_symm (f : α → β → Bool) (g : β → α → Bool) (a : List (K × α)) (b : List (K × β))
    (ha : (a.map (·.1)).Nodup) (hb : (b.map (·.1)).Nodup)
    (hfg : ∀ p ∈ a, ∀ q ∈ b, f p.2 q.2 = g q.2 p.2) :
    (a.length == b.length && all f a b) = (b.length == a.length && all g b a) := by
  by_cases hl : a.length = b.length
  · rw [hl, Bool.eq_iff_iff, beq_self_eq_true, Bool.true_and, Bool.true_and]
    exact ⟨all_swap f g a b hl ha hb hfg,
      all_swap g f b a hl.symm hb ha (fun q hq p hp => (hfg p hp q hq).symm)⟩
  · rw [beq_false_of_ne hl, beq_false_of_ne (fun e => hl e.symm)]; rfl

end Diffx.Assoc
