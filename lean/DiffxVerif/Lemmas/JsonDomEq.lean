import DiffxVerif.Model.JsonDom
import DiffxVerif.Lemmas.JsonProofs
/-!
# `JsonText.Dom` is `Json.Representable JsonText.FloatLex`

`Model/JsonDom.lean` states the domain of the laws of `json` for the reader
(`Json.Representable isRepr`, with Boolean helpers), `Lemmas/JsonProofs.lean` states the domain on
which the laws are proved of the Lean model (`JsonText.Dom`, with propositional helpers shaped for
the proofs).  The two are stated independently of each other; here they are proved to be the same
predicate when the float parameter is `JsonText.FloatLex`.
-/
namespace Diffx.JsonText
open Diffx

theorem textLt_eq_lt : ∀ (a b : Text), textLt a b = Text.lt a b
  | [], [] => rfl
  | [], _ :: _ => rfl
  | _ :: _, [] => rfl
  | a :: as, b :: bs => by
    simp only [textLt, Text.lt, textLt_eq_lt as bs]
    by_cases hab : a < b
    · simp [hab]
    · by_cases hba : b < a
      · have hne : a ≠ b := by omega
        simp [hab, hba, hne]
      · have he : a = b := by omega
        simp [he]

/-- "high surrogate followed by low surrogate", the two spellings -/
theorem pair_eq (a b : Nat) :
    (decide (0xD800 ≤ a) && decide (a ≤ 0xDBFF) && decide (0xDC00 ≤ b) && decide (b ≤ 0xDFFF)) =
      (isHigh a && isLow b) := by
  simp [isHigh, isLow, Bool.and_assoc]

theorem strOk_iff_jsonStr : ∀ (s : Text), StrOk s ↔ s.jsonStr = true
  | [] => by simp [StrOk, Text.jsonStr, Text.noSurrogatePair]
  | [c] => by simp [StrOk, Text.jsonStr, Text.noSurrogatePair]
  | a :: b :: r => by
    have ih := strOk_iff_jsonStr (b :: r)
    simp only [StrOk, ih]
    simp only [Text.jsonStr, Text.noSurrogatePair, pair_eq, List.all_cons, Bool.and_eq_true,
      Bool.not_eq_true', decide_eq_true_eq, Bool.and_eq_false_iff]
    constructor
    · rintro ⟨ha, hp, ⟨hb, hr⟩, hn⟩
      refine ⟨⟨ha, hb, hr⟩, ?_, hn⟩
      cases hh : isHigh a <;> cases hl : isLow b <;> simp_all
    · rintro ⟨⟨ha, hb, hr⟩, hp, hn⟩
      refine ⟨ha, ?_, ⟨hb, hr⟩, hn⟩
      rintro ⟨hh, hl⟩
      simp [hh, hl] at hp

theorem keysSorted_iff_increasing : ∀ (l : List (Text × Json)),
    KeysSorted l ↔ Text.increasing (l.map (·.1)) = true
  | [] => by simp [KeysSorted, Text.increasing]
  | [_] => by simp [KeysSorted, Text.increasing]
  | p :: q :: r => by
    have ih := keysSorted_iff_increasing (q :: r)
    simp only [List.map_cons] at ih
    simp only [KeysSorted, List.map_cons, Text.increasing, Bool.and_eq_true, ih, textLt_eq_lt]

mutual
theorem dom_iff_representable : ∀ (j : Json), Dom j ↔ Json.Representable FloatLex j
  | .null => by simp [Dom, Json.Representable]
  | .bool _ => by simp [Dom, Json.Representable]
  | .int _ => by simp [Dom, Json.Representable]
  | .float _ => by simp [Dom, Json.Representable]
  | .str s => by simp only [Dom, Json.Representable, strOk_iff_jsonStr]
  | .arr l => by simp only [Dom, Json.Representable, domList_iff_representableList l]
  | .obj l => by
    simp only [Dom, Json.Representable, keysSorted_iff_increasing, domPairs_iff_representableItems l]
theorem domList_iff_representableList : ∀ (l : List Json), DomList l ↔ Json.RepresentableList FloatLex l
  | [] => by simp [DomList, Json.RepresentableList]
  | x :: xs => by
    simp only [DomList, Json.RepresentableList, dom_iff_representable x, domList_iff_representableList xs]
theorem domPairs_iff_representableItems : ∀ (l : List (Text × Json)),
    DomPairs l ↔ Json.RepresentableItems FloatLex l
  | [] => by simp [DomPairs, Json.RepresentableItems]
  | (k, v) :: r => by
    simp only [DomPairs, Json.RepresentableItems, strOk_iff_jsonStr, dom_iff_representable v,
      domPairs_iff_representableItems r]
end

theorem dom_eq_representable : Dom = Json.Representable FloatLex :=
  funext fun j => propext (dom_iff_representable j)

end Diffx.JsonText
