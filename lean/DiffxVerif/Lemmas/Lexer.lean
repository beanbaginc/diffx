import DiffxVerif.Model.Lexer
import DiffxVerif.Lemmas.Basic
/-!
# Lemmas about the lexer model (`Model/Lexer.lean`) — property C20

Each piece of a rule (`dropPfx`, `matchTag`, `headerOptions`, `sectionContent`, `lastNl`, the
`delta` rule) gets a lemma saying how it splits the text; `lexDiff_succ` / `lexGo_succ` are the
two loops unfolded once, with the header rule as the function `header`.  The invariant `Good`
(the tokens tile the text from a position; own tokens are non-empty with a kind in `K`) holds of
both loops on every text, and losslessness, contiguity and "no empty token" are read off it.
That the tags of a document of benign sections are found exactly is a second induction, over the
sections: `header_sec` computes the header rule on the text of a section, and what its tokens
look like is again `header_good`.
-/
namespace Diffx.C20
open Diffx Diffx.Lexer

/-- no `#.` anywhere in the text -/
def NoHashDot (t : Str) : Prop := ∀ i, ¬ (t!"#." <+: t.drop i)

/-- a decision procedure for `NoHashDot` (used for closed examples) -/
theorem noHashDot_of_check (t : Str)
    (h : (List.range t.length).all (fun i => !(t!"#.").isPrefixOf (t.drop i)) = true) : NoHashDot t := by
  intro i hp
  by_cases hi : i < t.length
  · rw [List.all_eq_true] at h
    have := h i (List.mem_range.mpr hi)
    rw [Bool.not_eq_true', ← Bool.not_eq_true, List.isPrefixOf_iff_prefix] at this
    exact this hp
  · rw [List.drop_eq_nil_of_le (by omega)] at hp
    simp at hp

end Diffx.C20

namespace Diffx.Lexer

theorem concatVals_nil : concatVals [] = [] := rfl
theorem concatVals_cons (t : Tok) (l) : concatVals (t :: l) = t.val ++ concatVals l := by simp [concatVals]
theorem concatVals_append (a b) : concatVals (a ++ b) = concatVals a ++ concatVals b := by simp [concatVals]
theorem concatVals_shift (p l) : concatVals (shift p l) = concatVals l := by
  simp [concatVals, shift, List.map_map, Function.comp_def]
theorem concatVals_tok (p k v) : concatVals (tok p k v) = v := by
  unfold tok; split <;> simp_all [concatVals]

theorem dropPfx_iff {p s r : Str} : dropPfx p s = some r ↔ s = p ++ r := by
  unfold dropPfx
  constructor
  · intro h
    split at h
    · rename_i hp
      obtain ⟨t, rfl⟩ := List.isPrefixOf_iff_prefix.mp hp
      simpa using h
    · cases h
  · rintro rfl
    simp

theorem headerOptions_some {r attrs r' : Str} {sp : Bool} (h : headerOptions r = some (sp, attrs, r')) :
    r = (if sp then 32 :: attrs else []) ++ 10 :: r' ∧ (sp = false → attrs = []) := by
  unfold headerOptions at h
  split at h
  · simp at h; obtain ⟨rfl, rfl, rfl⟩ := h; simp
  · rename_i r0
    simp only at h
    split at h
    · rename_i r1 heq
      simp at h; obtain ⟨rfl, rfl, rfl⟩ := h
      rw [drop_takeWhile_length] at heq
      simp [← heq, List.takeWhile_append_dropWhile]
    · cases h
  · cases h

theorem sectionContent_go {acc s c r : Str} (h : sectionContent.go acc s = (c, r)) :
    acc.reverse ++ s = c ++ r := by
  induction s generalizing acc with
  | nil => simp [sectionContent.go] at h; obtain ⟨rfl, rfl⟩ := h; simp
  | cons x xs ih =>
    simp only [sectionContent.go] at h
    split at h
    · simp at h; obtain ⟨rfl, rfl⟩ := h; rfl
    · have := ih h; simpa using this

theorem sectionContent_eq {s c r : Str} (h : sectionContent s = (c, r)) : s = c ++ r := by
  cases s with
  | nil => simp [sectionContent] at h; obtain ⟨rfl, rfl⟩ := h; rfl
  | cons x xs => simp only [sectionContent] at h; simpa using sectionContent_go h

/-- the ten header tags with their kinds, in rule order -/
def tags : List (Head × Str) :=
  [(.container, t!"#diffx:"), (.container, t!"#.change:"), (.container, t!"#..file:"),
   (.metadata, t!"#.meta:"), (.metadata, t!"#..meta:"), (.metadata, t!"#...meta:"),
   (.preamble, t!"#.preamble:"), (.preamble, t!"#..preamble:"), (.preamble, t!"#...preamble:"),
   (.diff, t!"#...diff:")]

theorem matchTag_eq (s : Str) :
    matchTag s = tags.findSome? fun x => (dropPfx x.2 s).map fun r => (x.1, x.2, r) := by
  simp only [tags, findSome?_cons_orElse, List.findSome?_singleton]
  rfl

theorem tags_prefix_free : ∀ x ∈ tags, ∀ y ∈ tags, x.2 <+: y.2 → x = y := by decide +kernel

theorem tags_ne_nil {k : Head} {tag : Str} (h : (k, tag) ∈ tags) : tag ≠ [] := by
  rintro rfl; simp [tags] at h

theorem matchTag_iff {s tag r : Str} {k : Head} :
    matchTag s = some (k, tag, r) ↔ (k, tag) ∈ tags ∧ s = tag ++ r := by
  rw [matchTag_eq]
  constructor
  · intro h
    obtain ⟨x, hx, h⟩ := List.exists_of_findSome?_eq_some h
    obtain ⟨r', hr', he⟩ := Option.map_eq_some_iff.mp h
    cases he
    exact ⟨hx, dropPfx_iff.mp hr'⟩
  · rintro ⟨hm, rfl⟩
    refine findSome?_eq_of_unique hm (by rw [dropPfx_iff.mpr rfl]; rfl) fun x hx hs => ?_
    obtain ⟨r', hr'⟩ := Option.isSome_iff_exists.mp (Option.isSome_map ▸ hs)
    -- two prefixes of one text are comparable, and the tags are prefix-free
    have hp : x.2 <+: tag ++ r := ⟨r', (dropPfx_iff.mp hr').symm⟩
    rcases List.prefix_or_prefix_of_prefix hp (List.prefix_append tag r) with h | h
    · exact tags_prefix_free x hx _ hm h
    · exact (tags_prefix_free _ hm x hx h).symm

theorem lastNl_some {s : Str} {n : Nat} (h : lastNl s = some n) : 1 ≤ n ∧ n ≤ s.length := by
  simp only [lastNl, Option.map_eq_some_iff] at h
  obtain ⟨m, hm, rfl⟩ := h
  have := List.mem_of_getLast? hm
  simp at this
  have := (List.mem_zipIdx this).2.1
  omega

/-- the `(delta)( )(\d+)(\n)` rule, as in `lexDiff` -/
def deltaRule (s : Str) : Option (Str × Str) := do
  let r ← dropPfx t!"delta " s
  let ds := r.takeWhile isDig
  if ds.isEmpty then none else
  match r.drop ds.length with
  | 10 :: r' => some (ds, r')
  | _ => none

theorem lexDiff_succ (subs : Subs) (fuel pos : Nat) (c : Nat) (s : Str) :
    lexDiff subs (fuel + 1) pos (c :: s) =
      match dropPfx t!"...\n" (c :: s) with
      | some r => ⟨pos, .comment, t!"...\n"⟩ :: lexDiff subs fuel (pos + 4) r
      | none =>
        match deltaRule (c :: s) with
        | some (ds, r') =>
          [⟨pos, .keyword, t!"delta"⟩, ⟨pos + 5, .other, [32]⟩, ⟨pos + 6, .number, ds⟩,
           ⟨pos + 6 + ds.length, .other, [10]⟩] ++ lexDiff subs fuel (pos + 7 + ds.length) r'
        | none => shift pos (subs.diff (c :: s)) := by
  rw [lexDiff]
  · cases dropPfx t!"...\n" (c :: s) with
    | some r => rfl
    | none =>
      simp only [deltaRule]
      rfl
  · simp

/-- the tokens of a header line after its tag, from position `p1` -/
def hdrRest (p1 : Nat) (sp : Bool) (attrs : Str) : List Tok :=
  (if sp then [⟨p1, .other, [32]⟩] else []) ++ tok (p1 + 1) .attr attrs ++
    [⟨p1 + (if sp then 1 + attrs.length else 0), .other, [10]⟩]

/-- the local `ctoks` of `lexGo`: the tokens of a section's content, from position `p2` (the sub-lexer for JSON on
metadata, one token for a preamble, the rules of `lexDiff` on a diff) -/
def ctoks (subs : Subs) (k : Head) (p2 : Nat) (content : Str) : List Tok :=
  match k with
  | .metadata => shift p2 (subs.json content)
  | .preamble => tok p2 .other content
  | _ => lexDiff subs (content.length + 1) p2 content

/-- content and rest after a header line; a container has no content -/
def contentOf (k : Head) (r' : Str) : Str × Str :=
  if k = .container then ([], r') else sectionContent r'

theorem contentOf_eq (k : Head) (r' : Str) : r' = (contentOf k r').1 ++ (contentOf k r').2 := by
  unfold contentOf
  split
  · rfl
  · exact sectionContent_eq rfl

/-- the `header` that `lexGo` computes locally, as a function of its own (`lexGo_succ`): the tokens of a header line
and of the section's content, the position after them and the rest of the input; `none` when no header rule matches -/
def header (subs : Subs) (pos : Nat) (s : Str) : Option (List Tok × Nat × Str) :=
  match matchTag s with
  | none => none
  | some (k, tag, r) =>
    match headerOptions r with
    | none => none
    | some (sp, attrs, r') =>
      let p2 := pos + tag.length + (if sp then 1 + attrs.length else 0) + 1
      let c := contentOf k r'
      some (⟨pos, .tag, tag⟩ ::
          (hdrRest (pos + tag.length) sp attrs ++ (if c.1.isEmpty then [] else ctoks subs k p2 c.1)),
        p2 + c.1.length, c.2)

theorem lexGo_succ (subs : Subs) (fuel pos : Nat) (c : Nat) (s : Str) :
    lexGo subs (fuel + 1) pos (c :: s) =
      match dropPfx t!"...\n" (c :: s) with
      | some r => ⟨pos, .comment, t!"...\n"⟩ :: lexGo subs fuel (pos + 4) r
      | none =>
        match header subs pos (c :: s) with
        | some (toks, p, rest) => toks ++ lexGo subs fuel p rest
        | none =>
          match lastNl (c :: s) with
          | some n => ⟨pos, .other, (c :: s).take n⟩ :: lexGo subs fuel (pos + n) ((c :: s).drop n)
          | none => ⟨pos, .error, [c]⟩ :: lexGo subs fuel (pos + 1) s := by
  rw [lexGo]
  · cases dropPfx t!"...\n" (c :: s) with
    | some r => rfl
    | none =>
      simp only [header]
      cases matchTag (c :: s) with
      | none => rfl
      | some x =>
        obtain ⟨k, tag, r⟩ := x
        simp only [Option.bind_eq_bind, Option.bind_some]
        cases headerOptions r with
        | none => rfl
        | some y =>
          obtain ⟨sp, attrs, r'⟩ := y
          cases k
          · simp [contentOf, hdrRest]
          all_goals rfl

/-- `Good subs K p l s`: the token list `l` is built from pieces that tile the
text `s` starting at position `p`; own tokens are non-empty with a kind in `K`,
sub-lexer pieces are shifted to their start. -/
inductive Good (subs : Subs) (K : Kind → Prop) : Nat → List Tok → Str → Prop
  | nil (p : Nat) : Good subs K p [] []
  | app {p : Nat} {l1 : List Tok} {s1 : Str} {l2 : List Tok} {s2 : Str} :
      Good subs K p l1 s1 → Good subs K (p + s1.length) l2 s2 → Good subs K p (l1 ++ l2) (s1 ++ s2)
  | single (p : Nat) (k : Kind) (v : Str) : v ≠ [] → K k → Good subs K p [⟨p, k, v⟩] v
  | json (p : Nat) (s : Str) : s ≠ [] → Good subs K p (shift p (subs.json s)) s
  | diff (p : Nat) (s : Str) : s ≠ [] → Good subs K p (shift p (subs.diff s)) s

variable {subs : Subs} {K : Kind → Prop}

theorem Good.app' {p q : Nat} {l1 l2 : List Tok} {s1 s2 s : Str} (h1 : Good subs K p l1 s1)
    (h2 : Good subs K q l2 s2) (hq : q = p + s1.length) (hs : s = s1 ++ s2) :
    Good subs K p (l1 ++ l2) s := by subst hq hs; exact h1.app h2

theorem Good.cons' {p q : Nat} {k : Kind} {v : Str} {l : List Tok} {s s' : Str} (hv : v ≠ []) (hk : K k)
    (h : Good subs K q l s) (hq : q = p + v.length) (hs : s' = v ++ s) :
    Good subs K p (⟨p, k, v⟩ :: l) s' :=
  (Good.single p k v hv hk).app' h hq hs

theorem Good.tok {p : Nat} {k : Kind} {v : Str} (hk : K k) : Good subs K p (tok p k v) v := by
  unfold Lexer.tok
  cases v with
  | nil => exact Good.nil p
  | cons a v => exact Good.single p k _ (by simp) hk

theorem deltaRule_some {s ds r' : Str} (h : deltaRule s = some (ds, r')) :
    s = (t!"delta " ++ ds ++ [10]) ++ r' ∧ ds ≠ [] := by
  unfold deltaRule at h
  cases hd : dropPfx t!"delta " s with
  | none => simp [hd] at h
  | some r =>
    simp only [hd, Option.bind_eq_bind, Option.bind_some] at h
    split at h
    · cases h
    · rename_i hne
      split at h
      · rename_i r1 heq
        simp at h
        obtain ⟨rfl, rfl⟩ := h
        rw [drop_takeWhile_length] at heq
        refine ⟨?_, by simpa using hne⟩
        rw [dropPfx_iff.mp hd, List.append_assoc, List.append_assoc, List.singleton_append, ← heq,
          List.takeWhile_append_dropWhile]
      · cases h

theorem lexDiff_nil (subs : Subs) (fuel pos : Nat) : lexDiff subs fuel pos [] = [] := by
  cases fuel <;> simp [lexDiff]

theorem lexGo_nil (subs : Subs) (fuel pos : Nat) : lexGo subs fuel pos [] = [] := by
  cases fuel <;> simp [lexGo]

/-- one rule application inside a fuelled loop `f`: tokens for a non-empty prefix, then the loop on the rest -/
theorem Good.step {f : Nat → Str → List Tok} {fuel p q : Nat} {toks : List Tok} {s1 rest : Str}
    (ih : ∀ {pos s}, s.length < fuel → Good subs K pos (f pos s) s) (h1 : Good subs K p toks s1) (hne : s1 ≠ [])
    (hq : q = p + s1.length) (hlen : (s1 ++ rest).length < fuel + 1) :
    Good subs K p (toks ++ f q rest) (s1 ++ rest) := by
  have := List.length_pos_iff.mpr hne
  subst hq
  exact h1.app (ih (by rw [List.length_append] at hlen; omega))

section Own
variable (hK : ∀ k, k ≠ .tag → k ≠ .error → K k)
include hK

theorem lexDiff_good :
    ∀ {fuel pos : Nat} {s : Str}, s.length < fuel → Good subs K pos (lexDiff subs fuel pos s) s := by
  intro fuel
  induction fuel with
  | zero => intro pos s h; omega
  | succ fuel ih =>
    intro pos s hlen
    cases s with
    | nil => rw [lexDiff_nil]; exact Good.nil pos
    | cons c s =>
      rw [lexDiff_succ]
      cases hd : dropPfx t!"...\n" (c :: s) with
      | some r =>
        rw [dropPfx_iff.mp hd] at hlen ⊢
        exact Good.step (f := lexDiff subs fuel) ih (.single _ _ _ (by simp) (hK _ (by simp) (by simp))) (by simp) rfl hlen
      | none =>
        cases hdel : deltaRule (c :: s) with
        | none => exact Good.diff pos _ (by simp)
        | some x =>
          obtain ⟨ds, r'⟩ := x
          obtain ⟨hs, hds⟩ := deltaRule_some hdel
          have other := hK .other (by simp) (by simp)
          have h4 : Good subs K pos [⟨pos, .keyword, t!"delta"⟩, ⟨pos + 5, .other, [32]⟩, ⟨pos + 6, .number, ds⟩,
              ⟨pos + 6 + ds.length, .other, [10]⟩] (t!"delta " ++ ds ++ [10]) :=
            .cons' (v := t!"delta") (by simp) (hK .keyword (by simp) (by simp))
              (.cons' (v := [32]) (by simp) other
                (.cons' hds (hK .number (by simp) (by simp)) (.single _ _ [10] (by simp) other) rfl rfl)
                rfl rfl)
              rfl (by simp)
          rw [hs] at hlen ⊢
          exact Good.step (f := lexDiff subs fuel) ih h4 (by simp) (by simp; omega) hlen

theorem hdrRest_good {p1 : Nat} {sp : Bool} {attrs : Str}
    (hsp : sp = false → attrs = []) :
    Good subs K p1 (hdrRest p1 sp attrs) ((if sp then 32 :: attrs else []) ++ [10]) := by
  have hK' : ∀ p v, v ≠ [] → Good subs K p [⟨p, .other, v⟩] v :=
    fun p v hv => Good.single p _ v hv (hK _ (by simp) (by simp))
  cases sp with
  | false =>
    obtain rfl := hsp rfl
    exact hK' _ _ (by simp)
  | true =>
    refine ((hK' p1 [32] (by simp)).app' (Good.tok (hK _ (by simp) (by simp))) rfl rfl).app'
      (hK' _ _ (by simp)) ?_ (by simp)
    simp; omega

theorem ctoks_good (k : Head) {p2 : Nat} {content : Str} :
    Good subs K p2 (if content.isEmpty then [] else ctoks subs k p2 content) content := by
  cases content with
  | nil => exact Good.nil _
  | cons a c =>
    rw [if_neg (by simp)]
    cases k with
    | metadata => exact Good.json p2 _ (by simp)
    | preamble => exact Good.tok (hK _ (by simp) (by simp))
    | container => exact lexDiff_good hK (by omega)
    | diff => exact lexDiff_good hK (by omega)

theorem header_good {pos : Nat} {s : Str} {toks : List Tok} {p : Nat}
    {rest : Str} (h : header subs pos s = some (toks, p, rest)) :
    ∃ tag l s1, tag ≠ [] ∧ toks = ⟨pos, .tag, tag⟩ :: l ∧ s = tag ++ s1 ++ rest ∧
      p = pos + tag.length + s1.length ∧ Good subs K (pos + tag.length) l s1 := by
  unfold header at h
  split at h
  · cases h
  rename_i k tag r hm
  split at h
  · cases h
  rename_i sp attrs r' hh
  simp only [Option.some.injEq, Prod.mk.injEq] at h
  obtain ⟨rfl, rfl, rfl⟩ := h
  obtain ⟨hmem, rfl⟩ := matchTag_iff.mp hm
  obtain ⟨rfl, hsp⟩ := headerOptions_some hh
  have hlen : ((if sp then 32 :: attrs else []) ++ [10]).length = (if sp then 1 + attrs.length else 0) + 1 := by
    cases sp <;> simp <;> omega
  refine ⟨tag, _, ((if sp then 32 :: attrs else []) ++ [10]) ++ (contentOf k r').1, tags_ne_nil hmem, rfl, ?_, ?_,
    (hdrRest_good hK hsp).app' (ctoks_good hK k) (by rw [hlen]; omega) rfl⟩
  · conv => lhs; rw [contentOf_eq k r']
    simp
  · rw [List.length_append, hlen]; omega

end Own

theorem lexGo_good (hK : ∀ k, K k) :
    ∀ {fuel pos : Nat} {s : Str}, s.length < fuel → Good subs K pos (lexGo subs fuel pos s) s := by
  intro fuel
  induction fuel with
  | zero => intro pos s h; omega
  | succ fuel ih =>
    intro pos s hlen
    cases s with
    | nil => rw [lexGo_nil]; exact Good.nil pos
    | cons c s =>
      rw [lexGo_succ]
      cases hd : dropPfx t!"...\n" (c :: s) with
      | some r =>
        rw [dropPfx_iff.mp hd] at hlen ⊢
        exact Good.step (f := lexGo subs fuel) ih (.single _ _ _ (by simp) (hK _)) (by simp) rfl hlen
      | none =>
        cases hh : header subs pos (c :: s) with
        | some x =>
          obtain ⟨toks, p, rest⟩ := x
          obtain ⟨tag, l, s1, htag, rfl, hs, hp, hg⟩ := header_good (fun k _ _ => hK k) hh
          rw [hs] at hlen ⊢
          exact Good.step (f := lexGo subs fuel) ih (Good.cons' htag (hK _) hg rfl rfl) (by simp [htag])
            (hp.trans (by rw [List.length_append, Nat.add_assoc])) hlen
        | none =>
          cases hn : lastNl (c :: s) with
          | some n =>
            obtain ⟨h1, h2⟩ := lastNl_some hn
            have hne : (c :: s).take n ≠ [] := by
              intro h0
              have := congrArg List.length h0
              simp at this; omega
            rw [← List.take_append_drop n (c :: s)] at hlen
            conv => rhs; rw [← List.take_append_drop n (c :: s)]
            exact Good.step (f := lexGo subs fuel) ih (.single _ _ _ hne (hK _)) hne
              (by rw [List.length_take]; omega) hlen
          | none =>
            exact Good.step (f := lexGo subs fuel) (s1 := [c]) ih (.single _ _ _ (by simp) (hK _)) (by simp) rfl hlen

/-- the sub-lexers reproduce their input -/
def SubsLossless (subs : Subs) : Prop :=
  (∀ s, concatVals (subs.json s) = s) ∧ (∀ s, concatVals (subs.diff s) = s)

/-- token positions are contiguous from the given position -/
def Contiguous : Nat → List Tok → Prop
  | _, [] => True
  | p, t :: r => t.pos = p ∧ Contiguous (p + t.val.length) r

def SubsContiguous (subs : Subs) : Prop :=
  (∀ s, Contiguous 0 (subs.json s)) ∧ (∀ s, Contiguous 0 (subs.diff s))

theorem Good.lossless (hl : SubsLossless subs) {p : Nat} {l : List Tok} {s : Str}
    (h : Good subs K p l s) : concatVals l = s := by
  induction h with
  | nil p => rfl
  | app _ _ ih1 ih2 => rw [concatVals_append, ih1, ih2]
  | single p k v _ _ => simp [concatVals]
  | json p s _ => rw [concatVals_shift, hl.1]
  | diff p s _ => rw [concatVals_shift, hl.2]

theorem contiguous_append {p : Nat} {l1 l2 : List Tok} :
    Contiguous p (l1 ++ l2) ↔ Contiguous p l1 ∧ Contiguous (p + (concatVals l1).length) l2 := by
  induction l1 generalizing p with
  | nil => simp [Contiguous, concatVals]
  | cons t l ih =>
    simp only [List.cons_append, Contiguous, ih, concatVals_cons, List.length_append, and_assoc, Nat.add_assoc]

theorem contiguous_shift {q p : Nat} {l : List Tok} (h : Contiguous q l) : Contiguous (q + p) (shift p l) := by
  induction l generalizing q with
  | nil => trivial
  | cons t l ih =>
    obtain ⟨h1, h2⟩ := h
    refine ⟨by simp [h1], ?_⟩
    have := ih h2
    simpa [shift, Nat.add_right_comm] using this

theorem Good.contiguous (hl : SubsLossless subs) (hc : SubsContiguous subs) {p : Nat} {l : List Tok} {s : Str}
    (h : Good subs K p l s) : Contiguous p l := by
  induction h with
  | nil p => trivial
  | app h1 _ ih1 ih2 => rw [contiguous_append, h1.lossless hl]; exact ⟨ih1, ih2⟩
  | single p k v _ _ => exact ⟨rfl, trivial⟩
  | json p s _ => simpa using contiguous_shift (p := p) (hc.1 s)
  | diff p s _ => simpa using contiguous_shift (p := p) (hc.2 s)

theorem Good.forall {P : Kind → Str → Prop} (hown : ∀ k v, v ≠ [] → K k → P k v)
    (hs : ∀ s, ∀ t ∈ subs.json s ++ subs.diff s, P t.kind t.val) {p : Nat} {l : List Tok}
    {s : Str} (h : Good subs K p l s) : ∀ t ∈ l, P t.kind t.val := by
  have hshift : ∀ p l, (∀ t ∈ l, P t.kind t.val) → ∀ t ∈ shift p l, P t.kind t.val := by
    intro p l hl t ht
    obtain ⟨t', ht', rfl⟩ := List.mem_map.mp ht
    exact hl t' ht'
  induction h with
  | nil p => intro t ht; cases ht
  | app _ _ ih1 ih2 => exact fun t ht => (List.mem_append.mp ht).elim (ih1 t) (ih2 t)
  | single p k v hv hk => intro t ht; rw [List.mem_singleton.mp ht]; exact hown k v hv hk
  | json p s _ => exact hshift p _ fun t ht => hs s t (List.mem_append_left _ ht)
  | diff p s _ => exact hshift p _ fun t ht => hs s t (List.mem_append_right _ ht)

theorem Good.nonempty (hs : ∀ s, ∀ t ∈ subs.json s ++ subs.diff s, t.val ≠ []) {p : Nat} {l : List Tok}
    {s : Str} (h : Good subs K p l s) : ∀ t ∈ l, t.val ≠ [] :=
  h.forall (P := fun _ v => v ≠ []) (fun _ _ hv _ => hv) hs

theorem Good.kinds (hs : ∀ s, ∀ t ∈ subs.json s ++ subs.diff s, K t.kind) {p : Nat} {l : List Tok}
    {s : Str} (h : Good subs K p l s) : ∀ t ∈ l, K t.kind :=
  h.forall (P := fun k _ => K k) (fun _ _ _ hk => hk) hs

theorem lex_good (subs : Subs) (text : Str) : Good subs (fun _ => True) 0 (lex subs text) text :=
  lexGo_good (fun _ => trivial) (Nat.lt_succ_self _)

theorem endSection_tag {k : Head} {tag : Str} (h : (k, tag) ∈ tags) (hp : t!"#." <+: tag) (r : Str) :
    endSection (tag ++ r) = true := by
  simp only [tags, List.mem_cons, Prod.mk.injEq, List.not_mem_nil, or_false] at h
  rcases h with ⟨rfl, rfl⟩ | ⟨rfl, rfl⟩ | ⟨rfl, rfl⟩ | ⟨rfl, rfl⟩ | ⟨rfl, rfl⟩ | ⟨rfl, rfl⟩ | ⟨rfl, rfl⟩ |
    ⟨rfl, rfl⟩ | ⟨rfl, rfl⟩ | ⟨rfl, rfl⟩
  · simp at hp
  all_goals rfl

theorem endSection_true {s : Str} (h : endSection s = true) : s = [] ∨ ∃ r, s = 35 :: 46 :: r := by
  unfold endSection at h
  split at h
  · exact .inl rfl
  · exact .inr ⟨_, rfl⟩
  · cases h

theorem headerOptions_none (x : Str) : headerOptions (10 :: x) = some (false, [], x) := rfl

theorem headerOptions_attrs (a x : Str) (ha : (10 : Nat) ∉ a) :
    headerOptions (32 :: (a ++ 10 :: x)) = some (true, a, x) := by
  have h1 : (a ++ 10 :: x).takeWhile (· != 10) = a := by
    rw [List.takeWhile_append_of_pos fun y hy => by simpa using fun h : y = 10 => ha (h ▸ hy),
      List.takeWhile_cons_of_neg (by simp), List.append_nil]
  simp only [headerOptions, h1, List.drop_left]

theorem sectionContent_go_append (rest : Str) (hrest : endSection rest = true) :
    ∀ (c acc : Str), (∀ i, i < c.length → endSection (c.drop i ++ rest) = false) →
      sectionContent.go acc (c ++ rest) = (acc.reverse ++ c, rest) := by
  intro c
  induction c with
  | nil =>
    intro acc _
    cases rest with
    | nil => simp [sectionContent.go]
    | cons x xs => simp [sectionContent.go, hrest]
  | cons x xs ih =>
    intro acc h
    have h0 := h 0 (by simp)
    simp only [List.drop_zero] at h0
    simp only [List.cons_append] at h0 ⊢
    rw [sectionContent.go, if_neg (by simp [h0])]
    rw [ih (x :: acc) (fun i hi => by simpa using h (i + 1) (by simpa using hi))]
    simp

/-- No position inside the content looks like the end of the section.  The look-ahead would have to see `#.` there:
with both characters in the content this is what `NoHashDot` excludes; with `#` the last character of the content the
`.` would be the first of `rest`, which is empty or begins with `#` itself (`hrest`). -/
theorem endSection_inside {content rest : Str} (hc : C20.NoHashDot content)
    (hrest : endSection rest = true) (i : Nat) (hi : i < content.length) :
    endSection (content.drop i ++ rest) = false := by
  cases hd : content.drop i with
  | nil => have := congrArg List.length hd; simp at this; omega
  | cons x xs =>
    cases he : endSection (x :: xs ++ rest) with
    | false => rfl
    | true =>
      exfalso
      rcases endSection_true he with h | ⟨r, h⟩
      · cases h
      · simp only [List.cons_append, List.cons.injEq] at h
        obtain ⟨rfl, h⟩ := h
        cases xs with
        | nil =>
          rcases endSection_true hrest with rfl | ⟨r', rfl⟩
          · cases h
          · simp at h
        | cons y ys =>
          simp only [List.cons_append, List.cons.injEq] at h
          obtain ⟨rfl, -⟩ := h
          exact hc i (by rw [hd]; exact ⟨ys, rfl⟩)

theorem sectionContent_append {content rest : Str} (hne : content ≠ [])
    (hc : C20.NoHashDot content) (hrest : endSection rest = true) :
    sectionContent (content ++ rest) = (content, rest) := by
  cases content with
  | nil => exact absurd rfl hne
  | cons c0 c =>
    simp only [List.cons_append, sectionContent]
    rw [sectionContent_go_append rest hrest c [c0]]
    · simp
    · intro i hi
      have := endSection_inside hc hrest (i + 1) (by simpa using hi)
      simpa using this

theorem tags_hash : ∀ x ∈ tags, x.2.head? = some 35 := by decide

/-- a tag starts with `#`, so the `...` rule does not apply -/
theorem lexGo_header {subs : Subs} {fuel pos : Nat} {s : Str} {toks : List Tok} {p : Nat} {rest : Str}
    (h : header subs pos s = some (toks, p, rest)) :
    lexGo subs (fuel + 1) pos s = toks ++ lexGo subs fuel p rest := by
  have hs : ∃ t, s = 35 :: t := by
    unfold header at h
    split at h
    · cases h
    rename_i k tag r hm
    obtain ⟨hmem, rfl⟩ := matchTag_iff.mp hm
    have := tags_hash _ hmem
    cases tag with
    | nil => cases this
    | cons a t => cases this; exact ⟨_, rfl⟩
  obtain ⟨t, rfl⟩ := hs
  rw [lexGo_succ]
  show (match header subs pos (35 :: t) with
    | some (toks, p, rest) => toks ++ lexGo subs fuel p rest
    | none => _) = _
  rw [h]

/-- neither `Tag` nor `Error` tokens -/
def Quiet (l : List Tok) : Prop := ∀ t ∈ l, t.kind ≠ .error ∧ t.kind ≠ .tag

theorem Quiet.filter {l : List Tok} (h : Quiet l) : l.filter (·.kind == .tag) = [] := by
  rw [List.filter_eq_nil_iff]
  intro t ht
  simpa using (h t ht).2

/-!
`Sec.text`, `Sec.Benign`, `SubsQuiet`, `Document` and `NoHashDot` are the notions the header clause of
property C20 is stated with (`C20_headers` in `Properties/C20.lean`, `C20_rendered` in
`Properties/C20Writer.lean`), hence their namespace. -/

/-- a section of a DiffX file as text: its tag (one of the ten header tags), the
option string (without the leading space) if any, and its content -/
structure Sec where
  head : Head
  tag : Str
  attrs : Option Str
  content : Str

end Diffx.Lexer

namespace Diffx.C20
open Diffx Diffx.Lexer

abbrev Sec := Lexer.Sec

/-- the text of a section: `tag[ attrs]\n` followed by the content -/
def Sec.text (s : Sec) : Str :=
  s.tag ++ (match s.attrs with | none => [] | some a => 32 :: a) ++ [10] ++ s.content

/-- well-formed and benign: the tag is a header tag of its kind, the option
string has no newline, containers have no content, content sections have
non-empty content in which no `#.` occurs -/
def Sec.Benign (s : Sec) : Prop :=
  matchTag (s.tag ++ [10]) = some (s.head, s.tag, [10]) ∧
  (∀ a, s.attrs = some a → (10 : Nat) ∉ a) ∧
  (s.head = .container → s.content = []) ∧
  (s.head ≠ .container → s.content ≠ [] ∧ ∀ i, ¬ (t!"#." <+: s.content.drop i))

/-- sub-lexers that never produce an error / tag token (on the contents they get) -/
def SubsQuiet (subs : Subs) : Prop :=
  ∀ s, ∀ t ∈ subs.json s ++ subs.diff s, t.kind ≠ .error ∧ t.kind ≠ .tag

/-- the first section is the main header, the others are not (they start with `#.`) -/
def Document : List Sec → Prop
  | [] => True
  | s :: rest => s.tag = t!"#diffx:" ∧ ∀ r ∈ rest, t!"#." <+: r.tag

theorem Sec.Benign.mem_tags {s : Sec} (hb : s.Benign) : (s.head, s.tag) ∈ tags :=
  (matchTag_iff.mp hb.1).1

theorem Sec.Benign.contentOf {s : Sec} (hb : s.Benign) {rest : Str} (hrest : endSection rest = true) :
    contentOf s.head (s.content ++ rest) = (s.content, rest) := by
  obtain ⟨-, -, hcont, hnc⟩ := hb
  unfold Lexer.contentOf
  split
  · rename_i hk; rw [hcont hk]; rfl
  · rename_i hk; exact sectionContent_append (hnc hk).1 (hnc hk).2 hrest

theorem header_sec {subs : Subs} (hq : SubsQuiet subs) (s : Sec) (hb : s.Benign) (rest : Str)
    (hrest : endSection rest = true) (pos : Nat) :
    ∃ l p, header subs pos (s.text ++ rest) = some (⟨pos, .tag, s.tag⟩ :: l, p, rest) ∧ Quiet l := by
  have hopt : ∃ sp as, ∀ x, headerOptions ((match s.attrs with | none => [] | some a => 32 :: a) ++ [10] ++ x)
      = some (sp, as, x) := by
    cases ha : s.attrs with
    | none => exact ⟨false, [], fun x => rfl⟩
    | some a => exact ⟨true, a, fun x => by simpa using headerOptions_attrs a x (hb.2.1 a ha)⟩
  obtain ⟨sp, as, hopt⟩ := hopt
  have htext : s.text ++ rest =
      s.tag ++ ((match s.attrs with | none => [] | some a => 32 :: a) ++ [10] ++ (s.content ++ rest)) := by
    simp [Sec.text]
  have hh : ∃ l p, header subs pos (s.text ++ rest) = some (⟨pos, .tag, s.tag⟩ :: l, p, rest) := by
    rw [htext]
    unfold header
    simp only [matchTag_iff.mpr ⟨hb.mem_tags, rfl⟩, hopt, hb.contentOf hrest]
    exact ⟨_, _, rfl⟩
  obtain ⟨l, p, hh⟩ := hh
  -- the tokens after the tag are quiet whatever the text is
  obtain ⟨tag, l', s1, -, he, -, -, hg⟩ := header_good (K := fun k => k ≠ .error ∧ k ≠ .tag) (fun k h1 h2 => ⟨h2, h1⟩) hh
  cases he
  exact ⟨l, p, hh, hg.kinds fun s t ht => hq s t ht⟩

theorem endSection_secs (secs : List Sec) (hb : ∀ s ∈ secs, s.Benign) (hd : ∀ r ∈ secs, t!"#." <+: r.tag) :
    endSection (secs.flatMap Sec.text) = true := by
  cases secs with
  | nil => rfl
  | cons s secs =>
    have hbs := hb s (List.mem_cons_self ..)
    have := endSection_tag hbs.mem_tags (hd s (List.mem_cons_self ..))
      ((match s.attrs with | none => [] | some a => 32 :: a) ++ [10] ++ s.content ++ secs.flatMap Sec.text)
    simpa [Sec.text] using this

theorem lexGo_secs {subs : Subs} (hq : SubsQuiet subs) :
    ∀ (secs : List Sec), (∀ s ∈ secs, s.Benign) → (∀ r ∈ secs.tail, t!"#." <+: r.tag) →
    ∀ (fuel pos : Nat), (secs.flatMap Sec.text).length < fuel →
      ((lexGo subs fuel pos (secs.flatMap Sec.text)).filter (·.kind == .tag)).map (·.val) = secs.map (·.tag) ∧
      ∀ t ∈ lexGo subs fuel pos (secs.flatMap Sec.text), t.kind ≠ .error := by
  intro secs
  induction secs with
  | nil => intro _ _ fuel pos _; simp [lexGo_nil]
  | cons s secs ih =>
    intro hb hd fuel pos hlen
    cases fuel with
    | zero => omega
    | succ fuel =>
      have hbs := hb s (List.mem_cons_self ..)
      have hrest := endSection_secs secs (fun x hx => hb x (List.mem_cons_of_mem _ hx)) hd
      obtain ⟨l, p, hh, hlq⟩ := header_sec hq s hbs _ hrest pos
      have hlen' : (secs.flatMap Sec.text).length < fuel := by
        have : 0 < s.text.length := by
          unfold Sec.text; simp only [List.length_append, List.length_cons, List.length_nil]; omega
        simp only [List.flatMap_cons, List.length_append] at hlen; omega
      obtain ⟨ih1, ih2⟩ := ih (fun x hx => hb x (List.mem_cons_of_mem _ hx))
        (fun x hx => hd x (List.mem_of_mem_tail hx)) fuel p hlen'
      rw [List.flatMap_cons, lexGo_header hh]
      constructor
      · simp [List.filter_append, hlq.filter, ih1]
      · intro t ht
        simp only [List.cons_append, List.mem_cons, List.mem_append] at ht
        rcases ht with rfl | ht | ht
        · simp
        · exact (hlq t ht).1
        · exact ih2 t ht

end Diffx.C20
