import DiffxVerif.Model.Reader
import DiffxVerif.Model.Writer
/-!
# Spelling independence: the models use a codec name only through the environment

`SameCodec` and what follows from it for `strip_bom` and the newline of a kind; the whole content routines are in
`Lemmas/CodecSame.lean`.  The lookup must succeed (`hok`): when `codecs.lookup` raises, `strip_bom` looks the BOM
table up under the *spelling* it was given, and two spellings can then be told apart by the table.  `BomRowFor` /
`bomRowOk` stand here, below `Lemmas/ReadContent.lean`, because `Tie/Boms.lean` evaluates `bomRowOk` on the
repository's table and needs nothing else.
-/
namespace Diffx

/-- two names denote the same codec in `env`: every environment function gives
the same answers for both (true in CPython of two spellings / aliases of one
codec: `codecs.lookup` returns the same codec) -/
def SameCodec (env : Env) (n₁ n₂ : Name) : Prop :=
  env.canon n₁ = env.canon n₂ ∧ (∀ t, env.encode n₁ t = env.encode n₂ t) ∧ (∀ b, env.decode n₁ b = env.decode n₂ b)

theorem stripBom_same {env : Env} (cfg : Config) {n₁ n₂ : Name} (h : SameCodec env n₁ n₂) (data : Bytes)
    (hok : ∃ c, env.canon n₁ = .ok c) :
    stripBom env cfg data (some n₁) = stripBom env cfg data (some n₂) := by
  obtain ⟨c, hc1⟩ := hok
  have hc2 : env.canon n₂ = .ok c := by rw [← h.1]; exact hc1
  simp [stripBom, hc1, hc2]

theorem newlineFor_same {env : Env} (cfg : Config) (ln : Nat) (dos : Bool) {n₁ n₂ : Name}
    (h : SameCodec env n₁ n₂) (hok : ∃ c, env.canon n₁ = .ok c) :
    Reader.newlineFor env cfg ln dos (some n₁) = Reader.newlineFor env cfg ln dos (some n₂) := by
  simp only [Reader.newlineFor, Option.getD_some, h.2.1, fun data => stripBom_same cfg h data hok]

theorem guess_same {env : Env} (cfg : Config) (ln : Nat) (content : Bytes) {n₁ n₂ : Name}
    (h : SameCodec env n₁ n₂) (hok : ∃ c, env.canon n₁ = .ok c) :
    Reader.guessLineEndings env cfg ln content (some n₁) = Reader.guessLineEndings env cfg ln content (some n₂) := by
  simp only [Reader.guessLineEndings, newlineFor_same cfg ln _ h hok]

/-- the BOM table is adequate for a codec: its canonical name has a row, all
entries of the row have the length of the first, and the codec's BOM is one of
them -/
def BomRowFor (cfg : Config) (canon : Name) (bom : Bytes) : Prop :=
  ∃ b0 bs, cfg.boms.lookup canon = some (b0 :: bs) ∧ bom ∈ (b0 :: bs) ∧ ∀ b ∈ (b0 :: bs), b.length = b0.length

/-- executable form of `BomRowFor` (used by the tie theorem) -/
def bomRowOk (cfg : Config) (canon : Name) (bom : Bytes) : Bool :=
  match cfg.boms.lookup canon with
  | some (b0 :: bs) => (b0 :: bs).contains bom && (b0 :: bs).all (fun b => b.length == b0.length)
  | _ => false

theorem bomRowOk_sound (cfg : Config) (canon : Name) (bom : Bytes) (h : bomRowOk cfg canon bom = true) :
    BomRowFor cfg canon bom := by
  unfold bomRowOk at h
  split at h
  · rename_i b0 bs hl
    simp only [Bool.and_eq_true, List.contains_iff_mem, List.all_eq_true, beq_iff_eq] at h
    exact ⟨b0, bs, hl, h.1, h.2⟩
  · simp at h

end Diffx
