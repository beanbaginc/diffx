import DiffxVerif.Lemmas.Stream
import DiffxVerif.Lemmas.HeaderLine
import DiffxVerif.Lemmas.ReadContent
/-!
# One iteration of the reader loop as a chain of binds

`Reader.readHeader` is `nextLine` followed by `hdrParse` (`readHeader_eq`).  `Reader.stepSection` is one
`do` block.  `stepSection_chain` states it once as `readHeader >>= stepHdr`, where `stepHdr` is the bind
chain `lengthOf >>= fmtCheck >>= readContent >>= contentOf` (content sections) or `verCheck` (containers)
over stages that are functions of their own inputs (`readContent` has its own normal form, in
`Lemmas/ReadContent.lean`).  What an iteration can return is read off the chain with `Except.bind_ok` /
`bind_error`; on a section of a known kind the stages are evaluated forwards one by one (`readHeader_exact`,
`stepHdr_container`, `stepHdr_content`).  The loop: its three equations and the induction over them
(`readLoop_induct`); a yielded section shortens the unread bytes (`stepSection_progress`: every block size,
0 included), so any fuel above their number gives the same run (`readLoop_eq`).
-/

namespace Diffx.Reader
open Diffx Diffx.Header

theorem error_bind {α β} (e : Outcome) (f : α → M β) : (Except.error e : M α) >>= f = .error e := rfl

/-- `readHeader` after the header line has been found and its newline `nl` fixed: the line must end with
`nl` and parse; `k` builds the result from the parsed header -/
def hdrParse {α} (valid : List SecId) (linenum : Nat) (nl header : Bytes) (k : Hdr → α) : M α :=
  if !endsWith header nl then .error (.parseError linenum none) else
  match parseHeader valid (header.take (header.length - nl.length)) with
  | .error (.badKey c) => .error (.parseError linenum (some c))
  | .error (.badVal c) => .error (.parseError linenum (some c))
  | .error _ => .error (.parseError linenum none)
  | .ok hdr => .ok (k hdr)

theorem readHeader_eq (chunk : Nat) (valid : List SecId) (st : St) :
    readHeader chunk valid st =
      match nextLine chunk (st.rest.length + 1) st.rest with
      | none => .ok none
      | some (header, rest') =>
        let crlf := match st.fileCrlf with
          | some b => b
          | none => endsWith header [13, 10]
        hdrParse valid st.linenum (if crlf then [13, 10] else [10]) header
          (fun hdr => some (hdr, st.linenum, ⟨rest', st.linenum + 1, some crlf⟩)) := by
  unfold readHeader hdrParse
  rfl

theorem hdrParse_of {α} {valid : List SecId} (ln : Nat) {nl header : Bytes} (k : Hdr → α) {hdr : Hdr}
    (he : endsWith header nl = true) (hp : parseHeader valid (header.take (header.length - nl.length)) = .ok hdr) :
    hdrParse valid ln nl header k = .ok (k hdr) := by
  simp only [hdrParse, he, hp, Bool.not_true, Bool.false_eq_true, if_false]

theorem hdrParse_ok {α} {valid : List SecId} {ln : Nat} {nl header : Bytes} {k : Hdr → α} {y : α}
    (h : hdrParse valid ln nl header k = .ok y) :
    ∃ hdr, endsWith header nl = true ∧
      parseHeader valid (header.take (header.length - nl.length)) = .ok hdr ∧ y = k hdr := by
  unfold hdrParse at h
  cases he : endsWith header nl with
  | false => rw [he] at h; cases h
  | true =>
    rw [he] at h
    cases hp : parseHeader valid (header.take (header.length - nl.length)) with
    | error e => rw [hp] at h; cases e <;> cases h
    | ok hdr => rw [hp] at h; exact ⟨hdr, rfl, rfl, (Except.ok.inj h).symm⟩

theorem hdrParse_error {α} {valid : List SecId} {ln : Nat} {nl header : Bytes} {k : Hdr → α} {o : Outcome}
    (hnl : nl ≠ []) (hne : header ≠ []) (h : hdrParse valid ln nl header k = .error o) :
    ∃ c, o = .parseError ln c ∧ ∀ c', c = some c' → c' < header.length := by
  have hlt : (header.take (header.length - nl.length)).length < header.length := by
    have := List.length_pos_iff.mpr hnl
    have := List.length_pos_iff.mpr hne
    simp only [List.length_take]
    omega
  unfold hdrParse at h
  split at h
  · exact ⟨none, (Except.error.inj h).symm, nofun⟩
  · split at h
    · rename_i c hp
      exact ⟨some c, (Except.error.inj h).symm,
        fun _ e => Option.some.inj e ▸ Nat.lt_of_le_of_lt (parseHeader_col hp) hlt⟩
    · rename_i c hp
      exact ⟨some c, (Except.error.inj h).symm,
        fun _ e => Option.some.inj e ▸ Nat.lt_of_le_of_lt (parseHeader_col hp) hlt⟩
    · exact ⟨none, (Except.error.inj h).symm, nofun⟩
    · cases h

theorem readHeader_ok {chunk : Nat} {valid : List SecId} {st st' : St} {hdr : Hdr} {ln : Nat}
    (h : readHeader chunk valid st = .ok (some (hdr, ln, st'))) :
    ln = st.linenum ∧ st'.linenum = st.linenum + 1 ∧
      ∃ pre header nl, st.rest = pre ++ header ++ st'.rest ∧ (10 : UInt8) ∈ header ∧
        endsWith header nl = true ∧ parseHeader valid (header.take (header.length - nl.length)) = .ok hdr := by
  rw [readHeader_eq] at h
  split at h
  · cases h
  · rename_i header rest' hn
    obtain ⟨hdr', he, hp, hy⟩ := hdrParse_ok h
    cases hy
    obtain ⟨pre, hpre, hmem⟩ := nextLine_spec hn
    exact ⟨rfl, rfl, pre, header, _, hpre, hmem, he, hp⟩

theorem readHeader_ok_mem {chunk : Nat} {valid : List SecId} {st st' : St} {hdr : Hdr} {ln : Nat}
    (h : readHeader chunk valid st = .ok (some (hdr, ln, st'))) : hdr.sec ∈ valid := by
  obtain ⟨-, -, _, _, _, -, -, -, hp⟩ := readHeader_ok h
  obtain ⟨_, _, _, hv, _⟩ := parseHeader_ok_grammar hp
  exact hv

theorem ite_crlf_ne_nil (crlf : Bool) : (if crlf then [13, 10] else [10] : Bytes) ≠ [] := by
  cases crlf <;> simp

theorem readHeader_error {chunk : Nat} {valid : List SecId} {st : St} {o : Outcome}
    (h : readHeader chunk valid st = .error o) :
    ∃ pre header rest', st.rest = pre ++ header ++ rest' ∧ (10 : UInt8) ∈ header ∧
      ∃ c, o = .parseError st.linenum c ∧ ∀ c', c = some c' → c' < header.length := by
  rw [readHeader_eq] at h
  split at h
  · cases h
  · rename_i header rest' hn
    obtain ⟨pre, hpre, hmem⟩ := nextLine_spec hn
    exact ⟨pre, header, rest', hpre, hmem, hdrParse_error (ite_crlf_ne_nil _) (List.ne_nil_of_mem hmem) h⟩

theorem readHeader_chunk_zero (valid : List SecId) (st : St) : readHeader 0 valid st = .ok none := by
  rw [readHeader_eq, nextLine_chunk_zero]

theorem parsed_header_bytes {valid : List SecId} {h : Bytes} {hdr : Hdr} (hok : parseHeader valid h = .ok hdr) :
    (∀ b ∈ h, b ≠ 10 ∧ b ≠ 13) ∧ ∃ r, h = 35 :: r := by
  obtain ⟨pairs, hg, rfl, _, _⟩ := parseHeader_ok_grammar hok
  exact ⟨fun b hb => (lineChar_facts b (headerLine_lineChar _ hg.2 b hb)).2, _, headerLine_eq _ _⟩

theorem readHeader_exact {chunk : Nat} (hc : 0 < chunk) {valid : List SecId} {h : Bytes} (nl post : Bytes) (ln : Nat)
    (f : Option Bool) {hdr : Hdr}
    (hnl : nl = [10] ∨ nl = [13, 10]) (hcr : f = none ∨ f = some (nl == [13, 10]))
    (hp : parseHeader valid h = .ok hdr) :
    readHeader chunk valid ⟨h ++ nl ++ post, ln, f⟩ =
      .ok (some (hdr, ln, ⟨post, ln + 1, some (nl == [13, 10])⟩)) := by
  obtain ⟨hb, hh⟩ := parsed_header_bytes hp
  rw [readHeader_eq]
  simp only
  rw [nextLine_exact hc post _ hnl hb hh]
  simp only
  have key : ∀ crlf : Bool, crlf = (nl == [13, 10]) →
      hdrParse valid ln (if crlf then [13, 10] else [10]) (h ++ nl)
          (fun hdr => some (hdr, ln, (⟨post, ln + 1, some crlf⟩ : St))) =
        .ok (some (hdr, ln, ⟨post, ln + 1, some (nl == [13, 10])⟩)) := by
    rintro _ rfl
    have hnl' : (if (nl == [13, 10]) = true then ([13, 10] : Bytes) else [10]) = nl := by
      rcases hnl with rfl | rfl <;> rfl
    rw [hnl']
    refine hdrParse_of ln _ (endsWith_iff_suffix.2 (List.suffix_append _ _)) ?_
    rw [List.length_append, Nat.add_sub_cancel, List.take_left' rfl]
    exact hp
  rcases hcr with rfl | rfl
  · exact key _ (endsWith_crlf hnl hb)
  · exact key _ rfl

/-- `options['length']`: it has to be there, an `int`, and not negative -/
def lengthOf (opts : Opts) (ln : Nat) : M Nat :=
  match opts.get b!"length" with
  | none => .error (.parseError ln none)
  | some (.str _) => .error (.parseError ln none)
  | some (.int n) => if n < 0 then .error (.parseError ln none) else .ok n.toNat

/-- `options.get('format', 'json') != 'json'` (metadata sections only) -/
def fmtCheck (sec : SecId) (opts : Opts) (ln : Nat) : M Unit :=
  if !preambleSections.contains sec && metaSections.contains sec then
    match opts.get b!"format" with
    | some v => if v != .str b!"json" then .error (.parseError ln none) else .ok ()
    | none => .ok ()
  else .ok ()

/-- `options.get('version') in SpecVersion.VALID_VALUES` (main header only) -/
def verCheck (sec : SecId) (opts : Opts) (ln : Nat) : M Unit :=
  if sec = SecId.main then
    match opts.get b!"version" with
    | some (.str v) => if supportedVersions.contains v then .ok () else .error (.parseError ln none)
    | _ => .error (.parseError ln none)
  else .ok ()

/-- the `indent` argument of `_read_content`: given for a preamble only -/
def rcIndent (sec : SecId) (opts : Opts) : Option OptVal :=
  if preambleSections.contains sec then opts.get b!"indent" else none

/-- the `keep_bytes` argument of `_read_content`: set for a diff only -/
def rcKeep (sec : SecId) : Bool := !preambleSections.contains sec && !metaSections.contains sec

/-- what the record of a content section contains, from what `readContent` returned -/
def contentOf (env : Env) (sec : SecId) (ln : Nat) (got : Got) : M Content :=
  if preambleSections.contains sec then
    .ok (match got with | .text t => .text t | .bytes b => .textBytes b)
  else if metaSections.contains sec then
    (match got with
      | .text t => liftEnv ln (env.loadsText t)
      | .bytes b => liftEnv ln (env.loadsBytes b)) >>= fun j =>
    if !j.isObj then .error (.parseError ln none) else .ok (.metadata j)
  else .ok (match got with | .text _ => .diff [] | .bytes b => .diff b)

/-- the body of the `while True` loop of `iter_sections` after `_read_header`: for a content section the
`length` and `format` checks, `_read_content`, and the record's content; for a container the `version`
check and the push on the encoding stack -/
def stepHdr (env : Env) (cfg : Config) (encs : List (Option OptVal)) (prev : Nat) (hdr : Hdr) (ln : Nat) (st : St) :
    M (Option (Record × Loop)) :=
  if contentSections.contains hdr.sec then
    lengthOf hdr.opts ln >>= fun n =>
    fmtCheck hdr.sec hdr.opts ln >>= fun _ =>
    readContent env cfg st n (contentEncoding hdr.sec hdr.opts encs) (rcIndent hdr.sec hdr.opts)
      (hdr.opts.get b!"line_endings") (rcKeep hdr.sec) >>= fun p =>
    contentOf env hdr.sec ln p.1 >>= fun c =>
    .ok (some (⟨hdr.sec, ln, hdr.opts, c⟩, ⟨p.2, validNext hdr.sec, encs, prev⟩))
  else
    verCheck hdr.sec hdr.opts ln >>= fun _ =>
    .ok (some (⟨hdr.sec, ln, hdr.opts, .container⟩,
      ⟨st, validNext hdr.sec, pushEnc encs prev hdr.sec (hdr.opts.get b!"encoding"), hdr.sec.level⟩))

theorem stepSection_chain (env : Env) (cfg : Config) (chunk : Nat) (l : Loop) :
    stepSection env cfg chunk l =
      readHeader chunk l.valid l.st >>= fun x =>
        match x with
        | none => .ok none
        | some (hdr, ln, st) => stepHdr env cfg l.encodings l.prevLevel hdr ln st := by
  unfold stepSection
  congr 1
  funext x
  rcases x with _ | ⟨hdr, ln, st⟩
  · rfl
  dsimp only
  unfold stepHdr lengthOf fmtCheck verCheck contentOf rcIndent rcKeep
  by_cases hc : contentSections.contains hdr.sec = true
  · simp only [hc, if_true]
    rcases hdr.opts.get b!"length" with _ | (n | s)
    · rfl
    · dsimp only
      by_cases hn : n < 0
      · simp only [hn, if_true]; rfl
      · simp only [hn, if_false]
        -- a content section whose record holds `k got`
        have hrc : ∀ (x : M (Got × St)) (k : Got → M Content),
            (do let (got, st') ← x
                let c ← k got
                pure (some ((⟨hdr.sec, ln, hdr.opts, c⟩ : Record),
                  ({ l with st := st', valid := validNext hdr.sec } : Loop)))) =
            x >>= fun p => k p.1 >>= fun c =>
              .ok (some (⟨hdr.sec, ln, hdr.opts, c⟩, ⟨p.2, validNext hdr.sec, l.encodings, l.prevLevel⟩)) := by
          intro x k; cases x <;> rfl
        by_cases hp : preambleSections.contains hdr.sec = true
        · simp only [hp, if_true, Bool.not_true, Bool.false_and, Bool.false_eq_true, if_false, Except.ok_bind]
          exact hrc _ (fun got => .ok (match got with | .text t => .text t | .bytes b => .textBytes b))
        · by_cases hm : metaSections.contains hdr.sec = true
          · simp only [hp, hm, if_true, Bool.not_false, Bool.true_and, Bool.not_true]
            -- the metadata branch after the `format` check; `hrc` does not fit it: the `if … then throw`
            -- without `else` carries the rest of the block inside both of its arms
            have key : ∀ x : M (Got × St),
                (do
                  let (got, st') ← x
                  let j ← match got with
                    | .text t => liftEnv ln (env.loadsText t)
                    | .bytes b => liftEnv ln (env.loadsBytes b)
                  if !j.isObj then throw (Outcome.parseError ln none)
                  pure (some ((⟨hdr.sec, ln, hdr.opts, .metadata j⟩ : Record),
                    ({ l with st := st', valid := validNext hdr.sec } : Loop)))) =
                (x >>= fun p =>
                  ((match p.1 with
                    | .text t => liftEnv ln (env.loadsText t)
                    | .bytes b => liftEnv ln (env.loadsBytes b)) >>= fun j =>
                    if (!j.isObj) = true then Except.error (Outcome.parseError ln none)
                    else Except.ok (Content.metadata j)) >>= fun c =>
                  Except.ok (some ((⟨hdr.sec, ln, hdr.opts, c⟩ : Record),
                    (⟨p.2, validNext hdr.sec, l.encodings, l.prevLevel⟩ : Loop)))) := by
              rintro (e | ⟨got, st'⟩)
              · rfl
              · cases got
                · simp only [Except.ok_bind]
                  rcases liftEnv ln (env.loadsText _) with e | j
                  · rfl
                  · simp only [Except.ok_bind]
                    cases j.isObj <;> rfl
                · simp only [Except.ok_bind]
                  rcases liftEnv ln (env.loadsBytes _) with e | j
                  · rfl
                  · simp only [Except.ok_bind]
                    cases j.isObj <;> rfl
            rcases hdr.opts.get b!"format" with _ | v
            · exact key _
            · simp only []
              by_cases hv : (v != OptVal.str b!"json") = true
              · simp only [hv, if_true]; rfl
              · simp only [hv]; exact key _
          · simp only [hp, hm, if_false, Bool.not_false, Bool.true_and, Bool.false_eq_true, Except.ok_bind, Bool.and_self]
            exact hrc _ (fun got => .ok (match got with | .text _ => .diff [] | .bytes b => .diff b))
    · rfl
  · simp only [hc]
    by_cases hm : hdr.sec = SecId.main
    · simp only [hm, if_true]
      rcases hdr.opts.get b!"version" with _ | (n | v)
      · rfl
      · rfl
      · dsimp only
        cases supportedVersions.contains v <;> rfl
    · simp only [hm, if_false]; rfl

theorem stepSection_of_header {env : Env} {cfg : Config} {chunk : Nat} {l : Loop} {hdr : Hdr} {ln : Nat} {st : St}
    (hh : readHeader chunk l.valid l.st = .ok (some (hdr, ln, st))) :
    stepSection env cfg chunk l = stepHdr env cfg l.encodings l.prevLevel hdr ln st := by
  rw [stepSection_chain, hh]
  rfl

theorem stepSection_nil (env : Env) (cfg : Config) (chunk : Nat) {l : Loop} (h : l.st.rest = []) :
    stepSection env cfg chunk l = .ok none := by
  rw [stepSection_chain, readHeader_eq, h]
  have : nextLine chunk ([] : Bytes).length.succ [] = none := by
    simp [nextLine, readUntil, readUntilGo]
  simp only [Nat.succ_eq_add_one] at this
  rw [this]
  rfl

theorem verCheck_skip {sec : SecId} (h : sec ≠ SecId.main) (opts : Opts) (ln : Nat) :
    verCheck sec opts ln = .ok () := by
  simp only [verCheck, h, if_false]

theorem fmtCheck_skip {sec : SecId} (h : preambleSections.contains sec = true ∨ metaSections.contains sec = false)
    (opts : Opts) (ln : Nat) : fmtCheck sec opts ln = .ok () := by
  rcases h with h | h <;>
    simp only [fmtCheck, h, Bool.not_true, Bool.false_and, Bool.and_false, Bool.false_eq_true, if_false]

theorem rcIndent_preamble {sec : SecId} (h : preambleSections.contains sec = true) (opts : Opts) :
    rcIndent sec opts = opts.get b!"indent" := by
  simp only [rcIndent, h, if_true]

theorem rcIndent_other {sec : SecId} (h : preambleSections.contains sec = false) (opts : Opts) :
    rcIndent sec opts = none := by
  simp only [rcIndent, h, Bool.false_eq_true, if_false]

theorem contentOf_preamble {sec : SecId} (h : preambleSections.contains sec = true) (env : Env) (ln : Nat) (got : Got) :
    contentOf env sec ln got = .ok (match got with | .text t => .text t | .bytes b => .textBytes b) := by
  simp only [contentOf, h, if_true]

theorem contentOf_diff {sec : SecId} (hp : preambleSections.contains sec = false)
    (hm : metaSections.contains sec = false) (env : Env) (ln : Nat) (got : Got) :
    contentOf env sec ln got = .ok (match got with | .text _ => .diff [] | .bytes b => .diff b) := by
  simp only [contentOf, hp, hm, Bool.false_eq_true, if_false]

theorem rcKeep_preamble {sec : SecId} (hp : preambleSections.contains sec = true) : rcKeep sec = false := by
  simp only [rcKeep, hp, Bool.not_true, Bool.false_and]

theorem rcKeep_meta {sec : SecId} (hm : metaSections.contains sec = true) : rcKeep sec = false := by
  simp only [rcKeep, hm, Bool.not_true, Bool.and_false]

theorem rcKeep_diff {sec : SecId} (hp : preambleSections.contains sec = false)
    (hm : metaSections.contains sec = false) : rcKeep sec = true := by
  simp only [rcKeep, hp, hm, Bool.not_false, Bool.and_self]

theorem contentOf_meta {sec : SecId} (hp : preambleSections.contains sec = false)
    (hm : metaSections.contains sec = true) {env : Env} (ln : Nat) {got : Got} {j : Json}
    (hj : (match got with | .text t => env.loadsText t | .bytes b => env.loadsBytes b) = .ok j)
    (ho : j.isObj = true) : contentOf env sec ln got = .ok (.metadata j) := by
  unfold contentOf
  rw [hp, hm]
  cases got with
  | text t =>
    simp only at hj
    simp only [Bool.false_eq_true, if_false, if_true, hj, liftEnv, Except.ok_bind, ho, Bool.not_true]
  | bytes b =>
    simp only at hj
    simp only [Bool.false_eq_true, if_false, if_true, hj, liftEnv, Except.ok_bind, ho, Bool.not_true]

theorem lengthOf_int {opts : Opts} (ln : Nat) {n : Int} (h : opts.get b!"length" = some (.int n)) (hn : 0 ≤ n) :
    lengthOf opts ln = .ok n.toNat := by
  unfold lengthOf
  rw [h]
  simp only [Int.not_lt.mpr hn, if_false]

theorem lengthOf_nat {opts : Opts} (ln : Nat) {n : Nat} (h : opts.get b!"length" = some (.int n)) :
    lengthOf opts ln = .ok n :=
  lengthOf_int ln h (Int.natCast_nonneg n)

theorem stepHdr_container {env : Env} {cfg : Config} {encs : List (Option OptVal)} {prev : Nat} {sec : SecId}
    {opts : Opts} {ln : Nat} {st : St} (hcs : contentSections.contains sec = false)
    (hver : verCheck sec opts ln = .ok ()) :
    stepHdr env cfg encs prev ⟨sec, opts⟩ ln st = .ok (some (⟨sec, ln, opts, .container⟩,
      ⟨st, validNext sec, pushEnc encs prev sec (opts.get b!"encoding"), sec.level⟩)) := by
  simp only [stepHdr, hcs, Bool.false_eq_true, if_false, hver, Except.ok_bind]

theorem stepHdr_content {env : Env} {cfg : Config} {encs : List (Option OptVal)} {prev : Nat} {sec : SecId}
    {opts : Opts} {ln : Nat} {st st' : St} {n : Nat} {got : Got} {c : Content}
    (hcs : contentSections.contains sec = true)
    (hlen : opts.get b!"length" = some (.int (n : Int)))
    (hfmt : fmtCheck sec opts ln = .ok ())
    (hrc : readContent env cfg st n (contentEncoding sec opts encs) (rcIndent sec opts)
      (opts.get b!"line_endings") (rcKeep sec) = .ok (got, st'))
    (hco : contentOf env sec ln got = .ok c) :
    stepHdr env cfg encs prev ⟨sec, opts⟩ ln st =
      .ok (some (⟨sec, ln, opts, c⟩, ⟨st', validNext sec, encs, prev⟩)) := by
  simp only [stepHdr, hcs, if_true, lengthOf_nat ln hlen, hfmt, hrc, hco, Except.ok_bind]

theorem stepSection_bad_length (env : Env) (cfg : Config) {chunk : Nat} {l : Loop} {hdr : Hdr} {ln : Nat} {st : St}
    (hh : readHeader chunk l.valid l.st = .ok (some (hdr, ln, st)))
    (hc : contentSections.contains hdr.sec = true)
    (hb : hdr.opts.get b!"length" = none ∨ (∃ s, hdr.opts.get b!"length" = some (.str s)) ∨
          (∃ n : Int, hdr.opts.get b!"length" = some (.int n) ∧ n < 0)) :
    stepSection env cfg chunk l = .error (.parseError ln none) := by
  have hl : lengthOf hdr.opts ln = .error (.parseError ln none) := by
    unfold lengthOf
    rcases hb with h | ⟨s, h⟩ | ⟨n, h, hn⟩
    · rw [h]
    · rw [h]
    · rw [h]; simp only [hn, if_true]
  rw [stepSection_of_header hh]
  simp only [stepHdr, hc, if_true, hl]
  rfl

theorem stepSection_ok_iff {env : Env} {cfg : Config} {chunk : Nat} {l : Loop} {r : Record} {l' : Loop} :
    stepSection env cfg chunk l = .ok (some (r, l')) ↔
      ∃ hdr ln st, readHeader chunk l.valid l.st = .ok (some (hdr, ln, st)) ∧
        stepHdr env cfg l.encodings l.prevLevel hdr ln st = .ok (some (r, l')) := by
  rw [stepSection_chain]
  constructor
  · intro h
    obtain ⟨x, hx, h⟩ := Except.bind_ok h
    cases x with
    | none => cases h
    | some p => exact ⟨p.1, p.2.1, p.2.2, hx, h⟩
  · rintro ⟨hdr, ln, st, hh, h⟩
    rw [hh]; exact h

/-- the content kind of a record fits its section id -/
def kindOk (r : Record) : Prop :=
  match r.content with
  | .container => contentSections.contains r.sec = false
  | .text _ => preambleSections.contains r.sec = true
  | .textBytes _ => preambleSections.contains r.sec = true
  | .metadata _ => metaSections.contains r.sec = true
  | .diff _ => contentSections.contains r.sec = true ∧ preambleSections.contains r.sec = false ∧
      metaSections.contains r.sec = false

theorem contentOf_kind {env : Env} {sec : SecId} {ln : Nat} {o : Opts} {got : Got} {c : Content}
    (hc : contentSections.contains sec = true) (h : contentOf env sec ln got = .ok c) :
    kindOk ⟨sec, ln, o, c⟩ := by
  unfold contentOf at h
  split at h
  · cases h
    cases got <;> assumption
  · split at h
    · obtain ⟨j, _, h⟩ := Except.bind_ok h
      split at h <;> cases h
      assumption
    · rename_i hp hm
      cases h
      cases got <;> exact ⟨hc, by simpa using hp, by simpa using hm⟩

theorem stepHdr_ok {env : Env} {cfg : Config} {encs : List (Option OptVal)} {prev : Nat} {hdr : Hdr} {ln : Nat}
    {st : St} {r : Record} {l' : Loop} (h : stepHdr env cfg encs prev hdr ln st = .ok (some (r, l'))) :
    ∃ c, r = ⟨hdr.sec, ln, hdr.opts, c⟩ ∧ l'.valid = validNext hdr.sec ∧ kindOk r ∧
      (l'.st = st ∨ ∃ len enc ind le kb got, readContent env cfg st len enc ind le kb = .ok (got, l'.st)) := by
  unfold stepHdr at h
  split at h
  · rename_i hc
    obtain ⟨_, _, h⟩ := Except.bind_ok h
    obtain ⟨_, _, h⟩ := Except.bind_ok h
    obtain ⟨p, h3, h⟩ := Except.bind_ok h
    obtain ⟨c, hk, h⟩ := Except.bind_ok h
    cases h
    exact ⟨c, rfl, rfl, contentOf_kind hc hk, .inr ⟨_, _, _, _, _, _, h3⟩⟩
  · rename_i hc
    obtain ⟨_, _, h⟩ := Except.bind_ok h
    cases h
    exact ⟨_, rfl, rfl, by simpa [kindOk] using hc, .inl rfl⟩

theorem stepSection_kind {env : Env} {cfg : Config} {chunk : Nat} {l l' : Loop} {r : Record}
    (h : stepSection env cfg chunk l = .ok (some (r, l'))) : kindOk r := by
  obtain ⟨hdr, ln, st, _, h⟩ := stepSection_ok_iff.1 h
  obtain ⟨_, _, _, hk, _⟩ := stepHdr_ok h
  exact hk

theorem lengthOf_error {opts : Opts} {ln : Nat} {o : Outcome} (h : lengthOf opts ln = .error o) :
    o = .parseError ln none := by
  unfold lengthOf at h
  split at h
  · exact (Except.error.inj h).symm
  · exact (Except.error.inj h).symm
  · split at h
    · exact (Except.error.inj h).symm
    · cases h

theorem fmtCheck_error {sec : SecId} {opts : Opts} {ln : Nat} {o : Outcome} (h : fmtCheck sec opts ln = .error o) :
    o = .parseError ln none := by
  unfold fmtCheck at h
  split at h
  · split at h
    · split at h
      · exact (Except.error.inj h).symm
      · cases h
    · cases h
  · cases h

theorem verCheck_error {sec : SecId} {opts : Opts} {ln : Nat} {o : Outcome} (h : verCheck sec opts ln = .error o) :
    o = .parseError ln none := by
  unfold verCheck at h
  split at h
  · split at h
    · split at h
      · cases h
      · exact (Except.error.inj h).symm
    · exact (Except.error.inj h).symm
  · cases h

theorem contentOf_error {env : Env} {sec : SecId} {ln : Nat} {got : Got} {o : Outcome}
    (h : contentOf env sec ln got = .error o) :
    o = .parseError ln none ∨ (∃ t, liftEnv ln (env.loadsText t) = .error o) ∨
      ∃ b, liftEnv ln (env.loadsBytes b) = .error o := by
  unfold contentOf at h
  split at h
  · cases h
  · split at h
    · rcases Except.bind_error h with h | ⟨j, -, h⟩
      · cases got
        · exact Or.inr (Or.inl ⟨_, h⟩)
        · exact Or.inr (Or.inr ⟨_, h⟩)
      · split at h
        · exact Or.inl (Except.error.inj h).symm
        · cases h
    · cases h

theorem stepHdr_error {env : Env} {cfg : Config} {encs : List (Option OptVal)} {prev : Nat} {hdr : Hdr} {ln : Nat}
    {st : St} {o : Outcome} (h : stepHdr env cfg encs prev hdr ln st = .error o) :
    o = .parseError ln none ∨ (∃ len enc ind le kb, readContent env cfg st len enc ind le kb = .error o) ∨
      (∃ t, liftEnv ln (env.loadsText t) = .error o) ∨ ∃ b, liftEnv ln (env.loadsBytes b) = .error o := by
  unfold stepHdr at h
  split at h
  · rcases Except.bind_error h with h | ⟨n, -, h⟩
    · exact Or.inl (lengthOf_error h)
    rcases Except.bind_error h with h | ⟨_, -, h⟩
    · exact Or.inl (fmtCheck_error h)
    rcases Except.bind_error h with h | ⟨p, -, h⟩
    · exact Or.inr (Or.inl ⟨_, _, _, _, _, h⟩)
    rcases Except.bind_error h with h | ⟨c, -, h⟩
    · exact (contentOf_error h).imp_right Or.inr
    · cases h
  · rcases Except.bind_error h with h | ⟨_, -, h⟩
    · exact Or.inl (verCheck_error h)
    · cases h

theorem readLoop_error {env : Env} {cfg : Config} {chunk : Nat} {l : Loop} {o : Outcome} (fuel : Nat)
    (h : stepSection env cfg chunk l = .error o) : readLoop env cfg chunk (fuel + 1) l = ([], o) := by
  simp only [readLoop, h]

theorem readLoop_done {env : Env} {cfg : Config} {chunk : Nat} {l : Loop} (fuel : Nat)
    (h : stepSection env cfg chunk l = .ok none) : readLoop env cfg chunk (fuel + 1) l = ([], .done) := by
  simp only [readLoop, h]

theorem readLoop_cons {env : Env} {cfg : Config} {chunk : Nat} {l : Loop} {r : Record} {l' : Loop} (fuel : Nat)
    (h : stepSection env cfg chunk l = .ok (some (r, l'))) :
    readLoop env cfg chunk (fuel + 1) l =
      (r :: (readLoop env cfg chunk fuel l').1, (readLoop env cfg chunk fuel l').2) := by
  simp only [readLoop, h]

theorem readLoop_induct (env : Env) (cfg : Config) (chunk : Nat) {motive : Nat → Loop → Prop}
    (zero : ∀ l, motive 0 l)
    (error : ∀ fuel l o, stepSection env cfg chunk l = .error o → motive (fuel + 1) l)
    (done : ∀ fuel l, stepSection env cfg chunk l = .ok none → motive (fuel + 1) l)
    (cons : ∀ fuel l r l', stepSection env cfg chunk l = .ok (some (r, l')) → motive fuel l' → motive (fuel + 1) l)
    (fuel : Nat) (l : Loop) : motive fuel l := by
  induction fuel generalizing l with
  | zero => exact zero l
  | succ fuel ih =>
    rcases hs : stepSection env cfg chunk l with o | (_ | ⟨r, l'⟩)
    · exact error fuel l o hs
    · exact done fuel l hs
    · exact cons fuel l r l' hs (ih l')

theorem stepSection_progress {env : Env} {cfg : Config} {chunk : Nat} {l : Loop} {r : Record} {l' : Loop}
    (h : stepSection env cfg chunk l = .ok (some (r, l'))) :
    l'.st.rest.length < l.st.rest.length := by
  obtain ⟨hdr, ln, st, hrh, hs⟩ := stepSection_ok_iff.1 h
  obtain ⟨-, -, pre, header, _, hpre, hmem, -⟩ := readHeader_ok hrh
  have hpos : 0 < header.length := List.length_pos_of_mem hmem
  have h1 : st.rest.length < l.st.rest.length := by
    rw [hpre]; simp only [List.length_append]; omega
  obtain ⟨_, -, -, -, hst | ⟨len, enc, ind, le, kb, got, hrc⟩⟩ := stepHdr_ok hs
  · rw [hst]; exact h1
  · rw [readContent_rest hrc, List.length_drop]; omega

theorem readLoop_eq {env : Env} {cfg : Config} {chunk : Nat} {l : Loop} {f : Nat} (h : l.st.rest.length < f) :
    readLoop env cfg chunk f l =
      match stepSection env cfg chunk l with
      | .error o => ([], o)
      | .ok none => ([], .done)
      | .ok (some (r, l')) => (r :: (readLoop env cfg chunk (l'.st.rest.length + 1) l').1,
          (readLoop env cfg chunk (l'.st.rest.length + 1) l').2) := by
  induction f using Nat.strongRecOn generalizing l with
  | _ f ih =>
    cases f with
    | zero => omega
    | succ f =>
      rcases hs : stepSection env cfg chunk l with o | (_ | ⟨r, l'⟩)
      · exact readLoop_error f hs
      · exact readLoop_done f hs
      · have := stepSection_progress hs
        rw [readLoop_cons f hs, (ih f (Nat.lt_succ_self f) (by omega)).trans
          (ih _ (by omega) (Nat.lt_succ_self _)).symm]

theorem readLoop_fuel_irrelevant (env : Env) (cfg : Config) (chunk : Nat) (f₁ f₂ : Nat) (l : Loop)
    (h₁ : l.st.rest.length < f₁) (h₂ : l.st.rest.length < f₂) :
    readLoop env cfg chunk f₁ l = readLoop env cfg chunk f₂ l :=
  (readLoop_eq h₁).trans (readLoop_eq h₂).symm

theorem readLoop_step {env : Env} {cfg : Config} {chunk : Nat} {l : Loop} {r : Record} {l' : Loop}
    (hs : stepSection env cfg chunk l = .ok (some (r, l'))) {f : Nat} (h : l.st.rest.length < f) :
    readLoop env cfg chunk f l = (r :: (readLoop env cfg chunk (l'.st.rest.length + 1) l').1,
      (readLoop env cfg chunk (l'.st.rest.length + 1) l').2) := by
  rw [readLoop_eq h, hs]

end Diffx.Reader
