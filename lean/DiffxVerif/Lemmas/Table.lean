import DiffxVerif.Model.Sections
import DiffxVerif.Spec.Hierarchy
/-!
# The transition table as a finite object

`validNext` is a nine-way `if` on a variable id, so a proof that unfolds it splits
ten ways before it can compute.  Everything one wants to know about the table is
instead a statement about its (finitely many) edges: an id outside `SecId.legal` has no
successors (`validNext_of_not_legal`), hence a property of all pairs `t ∈ validNext s`
only has to be checked for the nine legal `s` (`forall_validNext`), which `decide` does.
-/
namespace Diffx

theorem validNext_of_not_legal {s : SecId} (h : s ∉ SecId.legal) : validNext s = [] := by
  simp only [SecId.legal, List.mem_cons, List.not_mem_nil, or_false, not_or] at h
  obtain ⟨h1, h2, h3, h4, h5, h6, h7, h8, h9⟩ := h
  rw [validNext, if_neg h1, if_neg h2, if_neg h3, if_neg h4, if_neg h5, if_neg h6, if_neg h7,
    if_neg h8, if_neg h9]

theorem validNext_prev_legal {p s : SecId} (h : s ∈ validNext p) : p ∈ SecId.legal :=
  Decidable.by_contra fun hp => by rw [validNext_of_not_legal hp] at h; cases h

theorem forall_validNext {P : SecId → SecId → Prop}
    (h : ∀ s ∈ SecId.legal, ∀ t ∈ validNext s, P s t) {s t : SecId} (ht : t ∈ validNext s) : P s t :=
  h s (validNext_prev_legal ht) t ht

theorem validNext_legal {s t : SecId} (h : t ∈ validNext s) : t ∈ SecId.legal :=
  forall_validNext (P := fun _ t => t ∈ SecId.legal) (by decide) h

theorem main_not_mem_validNext (s : SecId) : SecId.main ∉ validNext s := fun h =>
  forall_validNext (P := fun _ t => t ≠ SecId.main) (by decide) h rfl

/-- a preamble follows the main header or a change header and nothing else (and `#diffx:` follows nothing) -/
theorem validNext_preamble {p x : SecId} (h : x ∈ validNext p) (hn : x.name = .preamble ∨ x.name = .diffx) :
    p = SecId.main ∨ p = SecId.change :=
  forall_validNext (P := fun p x => x.name = .preamble ∨ x.name = .diffx → p = SecId.main ∨ p = SecId.change)
    (by decide) h hn

namespace Spec
theorem next_of_not_legal {s : SecId} (h : s ∉ SecId.legal) : next s = [] := by
  obtain ⟨l, n⟩ := s
  unfold next
  split
  -- every row of the table is a legal id
  any_goals
    rename_i hl hn
    cases hl
    cases hn
    exact absurd (by decide) h
  -- what is left is the default row
  rfl
end Spec

/-- the two tables list the same successors, for every id (in a different order) -/
theorem validNext_iff_spec {s t : SecId} : t ∈ validNext s ↔ t ∈ Spec.next s := by
  by_cases hs : s ∈ SecId.legal
  · have h : ∀ s ∈ SecId.legal,
        (∀ t ∈ validNext s, t ∈ Spec.next s) ∧ ∀ t ∈ Spec.next s, t ∈ validNext s := by decide
    exact ⟨(h s hs).1 t, (h s hs).2 t⟩
  · rw [validNext_of_not_legal hs, Spec.next_of_not_legal hs]

theorem legal_level : ∀ s ∈ SecId.legal, s.level ≤ 3 := by
  decide

theorem legal_preamble : ∀ s ∈ SecId.legal, s.name = .preamble →
    preambleSections.contains s = true ∧ metaSections.contains s = false ∧
      contentSections.contains s = true ∧ s ≠ SecId.fileDiff ∧ s ≠ SecId.main := by
  decide

theorem legal_meta : ∀ s ∈ SecId.legal, s.name = .metadata →
    preambleSections.contains s = false ∧ metaSections.contains s = true ∧
      contentSections.contains s = true ∧ s ≠ SecId.fileDiff ∧ s ≠ SecId.main := by
  decide

theorem legal_diff : ∀ s ∈ SecId.legal, s.name = .diff →
    preambleSections.contains s = false ∧ metaSections.contains s = false ∧
      contentSections.contains s = true ∧ s = SecId.fileDiff := by
  decide

theorem legal_content : ∀ s ∈ SecId.legal, s.name = .preamble ∨ s.name = .metadata ∨ s.name = .diff →
    contentSections.contains s = true := by
  decide

theorem preamble_sec {sec : SecId} (h : preambleSections.contains sec = true) :
    contentSections.contains sec = true ∧ metaSections.contains sec = false ∧ sec ≠ SecId.fileDiff := by
  have : sec = SecId.mainPreamble ∨ sec = SecId.changePreamble := by
    simpa [preambleSections] using h
  rcases this with h | h <;> subst h <;> decide

theorem meta_sec {sec : SecId} (h : metaSections.contains sec = true) :
    contentSections.contains sec = true ∧ preambleSections.contains sec = false ∧ sec ≠ SecId.fileDiff := by
  have : sec = SecId.mainMeta ∨ sec = SecId.changeMeta ∨ sec = SecId.fileMeta := by
    simpa [metaSections] using h
  rcases this with h | h | h <;> subst h <;> decide

theorem container_sec {sec : SecId} (h : sec = SecId.change ∨ sec = SecId.file) :
    contentSections.contains sec = false ∧ sec ≠ SecId.main := by
  rcases h with h | h <;> subst h <;> decide

namespace Spec

theorem chainOk_mem {p : SecId} {xs : List SecId} (h : chainOk p xs = true) :
    ∀ x ∈ xs, ∃ q, x ∈ validNext q := by
  induction xs generalizing p with
  | nil => simp
  | cons y ys ih =>
    simp only [chainOk, Bool.and_eq_true, List.contains_iff_mem] at h
    intro x hx
    rcases List.mem_cons.1 hx with rfl | hx
    · exact ⟨p, validNext_iff_spec.2 h.1⟩
    · exact ih h.2 x hx

theorem ordered_cases {xs : List SecId} (h : ordered xs = true) :
    xs = [] ∨ ∃ ys, xs = SecId.main :: ys ∧ chainOk SecId.main ys = true := by
  cases xs with
  | nil => exact .inl rfl
  | cons x ys =>
    simp only [ordered, Bool.and_eq_true, beq_iff_eq] at h
    obtain ⟨rfl, h2⟩ := h
    exact .inr ⟨ys, rfl, h2⟩

theorem ordered_legal {xs : List SecId} (h : ordered xs = true) : ∀ x ∈ xs, x ∈ SecId.legal := by
  rcases ordered_cases h with rfl | ⟨ys, rfl, hc⟩
  · simp
  · intro x hx
    rcases List.mem_cons.1 hx with rfl | hx
    · decide
    · obtain ⟨q, hq⟩ := chainOk_mem hc x hx
      exact validNext_legal hq

theorem ordered_main_iff {xs : List SecId} (h : ordered xs = true) {i : Nat} {x : SecId}
    (hi : xs[i]? = some x) : x = SecId.main ↔ i = 0 := by
  rcases ordered_cases h with rfl | ⟨ys, rfl, hc⟩
  · simp at hi
  · cases i with
    | zero => simpa [eq_comm] using hi
    | succ j =>
      obtain ⟨q, hq⟩ := chainOk_mem hc x (List.mem_of_getElem? hi)
      constructor
      · rintro rfl
        exact absurd hq (main_not_mem_validNext q)
      · intro e
        cases e

theorem chainOk_firstIllegal {p : SecId} {xs : List SecId} (i : Nat) (h : chainOk p xs = true) :
    firstIllegalFrom (some p) xs i = none := by
  induction xs generalizing p i with
  | nil => simp [firstIllegalFrom]
  | cons y ys ih =>
    simp only [chainOk, Bool.and_eq_true] at h
    simp only [firstIllegalFrom, h.1, if_true]
    exact ih (i + 1) h.2

theorem ordered_firstIllegal {xs : List SecId} (h : ordered xs = true) : firstIllegal xs = none := by
  rcases ordered_cases h with rfl | ⟨ys, rfl, hc⟩
  · rfl
  · simp only [firstIllegal, firstIllegalFrom, beq_self_eq_true, if_true]
    exact chainOk_firstIllegal _ hc

end Spec

end Diffx
