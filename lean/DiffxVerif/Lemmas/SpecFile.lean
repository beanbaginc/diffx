import DiffxVerif.Lemmas.Table
import DiffxVerif.Lemmas.Rendered
import DiffxVerif.Lemmas.Split
import DiffxVerif.Lemmas.ReadContent
import DiffxVerif.Lemmas.Encoding
/-!
# The reader against the specification's reading of a whole foreign file

The specification reads a document with a context `Spec.Ctx`: the previous section, the encodings the main
header and the open change and file declared, the line count.  The reader carries `valid_sections`, the
`encodings` stack and `prev_container_level`.  `Related` says that these are functions of the context: the
sections allowed after `c.prev`, `stackOf c` (the chain of inherited declarations, cut at the depth of the open
container) and `depthOf c.prev`.  That the reader's update of its stack and the specification's update of its
context agree (`stack_container`, `stack_content`, `top_inherited`) comes down to facts about the finitely many
transitions of the table, which are decided (`trans_facts`).  On a section with a well-formed header the
iteration is the one of `Lemmas/Rendered.lean` (`spec_step`); on a well-formed content section `_read_content`
is followed stage by stage (`Lemmas/ReadContent.lean`) to `readContent_spec`, each stage discharged by the
fields of `Spec.SecOk` that the reader's check at that stage forces.  The simulation step `C03_sim_step`, the
list induction and the whole-file theorem stand in `Properties/C03File.lean`, as do the single-defect documents
whose failing iteration is `step_bad_version` / `step_bad_length`.
-/

namespace Diffx.SpecFile
open Diffx Diffx.Spec Diffx.Header Diffx.Reader

/-- the level of the innermost open container after section `p`: the reader's `prev_container_level` -/
def depthOf : Option SecId → Nat
  | none => 0
  | some p => if p.name = .change ∨ p.name = .file then p.level else p.level - 1

/-- all values `Ctx.prev` can take: the table is decided over this list (`trans_facts`) -/
def prevs : List (Option SecId) := none :: SecId.legal.map some

theorem prev_cases {p : Option SecId} {s : SecId} (h : s ∈ allowedNext p) : p ∈ prevs := by
  cases p with
  | none => simp [prevs]
  | some q =>
    have := validNext_prev_legal (p := q) (s := s) h
    simp only [prevs, List.mem_cons, List.mem_map, Option.some.injEq, exists_eq_right, reduceCtorEq, false_or]
    exact this

/-- closed facts about the transition table: `prev_cases` bounds `p` by the list `prevs` and `h` bounds `s`
by a list, so with both reverted the statement is decided -/
theorem trans_facts {p : Option SecId} {s : SecId} (h : s ∈ allowedNext p) :
    depthOf p ≤ 2 ∧ s ∈ SecId.legal ∧
    (contentSections.contains s = true →
      s.level = depthOf p + 1 ∧ depthOf (some s) = depthOf p ∧ p ≠ none ∧
      s ≠ SecId.main ∧ s ≠ SecId.change ∧ s ≠ SecId.file) ∧
    (contentSections.contains s = false →
      depthOf (some s) = s.level ∧
      ((s = SecId.main ∧ p = none) ∨ (s = SecId.change ∧ p ≠ none) ∨
       (s = SecId.file ∧ p ≠ none ∧ 1 ≤ depthOf p))) := by
  have hp := prev_cases h
  revert h
  revert s
  revert hp
  revert p
  decide

/-- an `encoding` option as the header parser reports it -/
def optConv (e : Option Bytes) : Option OptVal := e.map convert

/-- the reader's `encodings` list when the specification's context is `c` -/
def stackOf (c : Ctx) : List (Option OptVal) :=
  match c.prev with
  | none => [none]
  | some _ =>
    match depthOf c.prev with
    | 0 => [none, optConv c.mainEnc]
    | 1 => [none, optConv c.mainEnc, optConv (c.changeEnc <|> c.mainEnc)]
    | _ => [none, optConv c.mainEnc, optConv (c.changeEnc <|> c.mainEnc),
            optConv (c.fileEnc <|> c.changeEnc <|> c.mainEnc)]

theorem own_or (a b : Option Bytes) :
    (match optConv a with | some v => some v | none => optConv b) = optConv (a <|> b) := by
  cases a <;> rfl

theorem next_prev_line (env : Env) (cfg : Config) (c : Ctx) (s : Sec) :
    (c.next env cfg s).prev = some s.id ∧ (c.next env cfg s).line = c.line + linesOf env cfg c s := by
  unfold Ctx.next
  simp only
  split
  · exact ⟨rfl, rfl⟩
  · split
    · exact ⟨rfl, rfl⟩
    · split <;> exact ⟨rfl, rfl⟩

theorem next_prev (env : Env) (cfg : Config) (c : Ctx) (s : Sec) : (c.next env cfg s).prev = some s.id :=
  (next_prev_line env cfg c s).1

theorem next_line (env : Env) (cfg : Config) (c : Ctx) (s : Sec) :
    (c.next env cfg s).line = c.line + linesOf env cfg c s :=
  (next_prev_line env cfg c s).2

theorem stackOf_some (c : Ctx) (p : SecId) (hp : c.prev = some p) :
    stackOf c = [none, optConv c.mainEnc, optConv (c.changeEnc <|> c.mainEnc),
      optConv (c.fileEnc <|> c.changeEnc <|> c.mainEnc)].take (depthOf c.prev + 2) := by
  unfold stackOf
  rw [hp]
  simp only
  rcases depthOf (some p) with _ | _ | _ | n <;> rfl

/-- a container section: the reader's stack update (`pushEnc_eq`: keep the frames of the levels that
stay open, push the own option or else the new top) is the context update -/
theorem stack_container (env : Env) (cfg : Config) {c : Ctx} {s : Sec} (h : s.id ∈ allowedNext c.prev)
    (hc : s.hasContent = false) :
    pushEnc (stackOf c) (depthOf c.prev) s.id (optConv (s.get b!"encoding")) = stackOf (c.next env cfg s) ∧
      depthOf (c.next env cfg s).prev = s.id.level := by
  obtain ⟨hd2, _, _, hcont⟩ := trans_facts h
  obtain ⟨hdep, hcase⟩ := hcont hc
  rw [next_prev, hdep]
  refine ⟨?_, rfl⟩
  rw [stackOf_some (c.next env cfg s) s.id (next_prev env cfg c s), next_prev, hdep]
  rcases hcase with ⟨hid, hp⟩ | ⟨hid, hp⟩ | ⟨hid, hp, h1⟩
  · unfold stackOf Ctx.next
    rw [hp, hid]
    cases s.get b!"encoding" <;> rfl
  · obtain ⟨p, hp'⟩ := Option.ne_none_iff_exists'.mp hp
    rw [stackOf_some c p hp', pushEnc_eq _ (by rw [hid]; decide)
      (by simp only [List.length_take, List.length_cons, List.length_nil]; omega)
      (by rw [hid]; exact Nat.le_add_left 1 _), hid]
    unfold Ctx.next
    rw [hid]
    simp only [List.take_take]
    cases s.get b!"encoding" <;> rfl
  · obtain ⟨p, hp'⟩ := Option.ne_none_iff_exists'.mp hp
    rw [stackOf_some c p hp', pushEnc_eq _ (by rw [hid]; decide)
      (by simp only [List.length_take, List.length_cons, List.length_nil]; omega)
      (by rw [hid]; exact Nat.succ_le_succ h1), hid]
    obtain ⟨d, hd⟩ : ∃ d, depthOf c.prev = d + 1 := ⟨_, (Nat.sub_add_cancel h1).symm⟩
    unfold Ctx.next
    rw [hid, hd]
    simp only [List.take_take]
    cases s.get b!"encoding" <;> cases c.changeEnc <;> rfl

theorem stack_content (env : Env) (cfg : Config) {c : Ctx} {s : Sec} (h : s.id ∈ allowedNext c.prev)
    (hc : s.hasContent = true) :
    stackOf (c.next env cfg s) = stackOf c ∧ depthOf (c.next env cfg s).prev = depthOf c.prev := by
  obtain ⟨_, _, hcont, _⟩ := trans_facts h
  obtain ⟨_, hdep, hp, h1, h2, h3⟩ := hcont hc
  obtain ⟨prev, m, ch, f, line⟩ := c
  cases prev with
  | none => exact absurd rfl hp
  | some p =>
    simp only at hdep
    simp only [Ctx.next, h1, h2, h3, if_false]
    refine ⟨?_, hdep⟩
    unfold stackOf
    simp only [hdep]

theorem top_inherited {c : Ctx} {id : SecId} (h : id ∈ allowedNext c.prev)
    (hc : contentSections.contains id = true) :
    topEnc (stackOf c) = optConv (inherited c id) := by
  obtain ⟨hd2, _, hcont, _⟩ := trans_facts h
  obtain ⟨hlvl, _, hp, _⟩ := hcont hc
  obtain ⟨prev, m, ch, f, line⟩ := c
  cases prev with
  | none => exact absurd rfl hp
  | some p =>
    simp only at hlvl hd2
    unfold stackOf inherited
    simp only [hlvl]
    rcases hdv : depthOf (some p) with _ | _ | _ | n
    · rfl
    · rfl
    · rfl
    · rw [hdv] at hd2; omega

/-- **the specification's context after some sections and the reader's loop state after reading
them**: the loop variables `valid_sections`, `encodings` and `prev_container_level` are functions of the
context, the line counts agree, and `_file_newlines` is unset (before the first header) or the file's header
newline convention `crlf` -/
structure Related (crlf : Bool) (c : Ctx) (l : Loop) : Prop where
  valid : l.valid = allowedNext c.prev
  encs : l.encodings = stackOf c
  level : l.prevLevel = depthOf c.prev
  line : l.st.linenum = c.line
  nl : l.st.fileCrlf = none ∨ l.st.fileCrlf = some crlf

theorem related_start (crlf : Bool) (data : Bytes) : Related crlf Ctx.start (Loop.init data) :=
  ⟨rfl, rfl, rfl, rfl, Or.inl rfl⟩

theorem _root_.Diffx.Spec.HeaderOk.grammarOk {c : Ctx} {s : Sec} (H : HeaderOk c s) : GrammarOk s.id s.opts :=
  ⟨(legal_level _ (trans_facts H.allowed).2.1), H.grammar⟩

theorem header_step {chunk : Nat} (hc : 0 < chunk) {crlf : Bool} {c : Ctx} {s : Sec} (H : HeaderOk c s)
    {l : Loop} (R : Related crlf c l) {post : Bytes} (hrest : l.st.rest = renderSec crlf s ++ post) :
    readHeader chunk l.valid l.st =
      .ok (some (⟨s.id, optsOf s⟩, c.line, ⟨s.content ++ post, c.line + 1, some crlf⟩)) := by
  obtain ⟨⟨rest, ln, f⟩, valid, encs, prev⟩ := l
  have hv := R.valid
  have hln := R.line
  simp only at hrest hv hln ⊢
  subst hrest hln hv
  exact readHeader_rendered hc crlf H.allowed H.grammarOk H.distinct H.blankOk _ R.nl post

theorem spec_step (env : Env) (cfg : Config) {chunk : Nat} (hc : 0 < chunk) {crlf : Bool} {c : Ctx} {s : Sec}
    (H : HeaderOk c s) {l : Loop} (R : Related crlf c l) {post : Bytes}
    (hrest : l.st.rest = renderSec crlf s ++ post) :
    stepSection env cfg chunk l =
      stepHdr env cfg (stackOf c) (depthOf c.prev) ⟨s.id, optsOf s⟩ c.line
        ⟨s.content ++ post, c.line + 1, some crlf⟩ := by
  rw [stepSection_rendered hc (by rw [R.valid]; exact H.allowed) H.grammarOk H.distinct H.blankOk R.nl hrest,
    R.encs, R.level, R.line]

theorem codecName_eq (e : Option Bytes) :
    (e.map Name.ofBytes).getD (Text.ofAscii b!"ascii") = codecName e := by
  cases e <;> rfl

theorem newlineFor_ok_iff {env : Env} {cfg : Config} {ln : Nat} {dos : Bool} {e : Option Bytes} {nl : Bytes} :
    newlineFor env cfg ln dos (e.map Name.ofBytes) = .ok nl ↔ encNewline env cfg e dos = some nl := by
  unfold newlineFor encNewline
  simp only [codecName_eq]
  cases env.encode (codecName e) (nlText dos) with
  | ok raw =>
    simp only [liftEnv, Except.ok_bind]
    cases stripBom env cfg raw (some (codecName e)) with
    | ok b => simp [val?]
    | err => simp [val?]
    | missing q => simp [val?]
  | err => simp [liftEnv, Except.error_bind]
  | missing q => simp [liftEnv, Except.error_bind]

theorem guess_of_enc {env : Env} {cfg : Config} (ln : Nat) (content : Bytes) {e : Option Bytes} {u d : Bytes}
    (hu : encNewline env cfg e false = some u) (hd : encNewline env cfg e true = some d) :
    guessLineEndings env cfg ln content (e.map Name.ofBytes) =
      .ok (detectDos u d content, if detectDos u d content then d else u) := by
  unfold guessLineEndings
  rw [newlineFor_ok_iff.mpr hu, newlineFor_ok_iff.mpr hd]
  simp only [Except.ok_bind]
  unfold detectDos
  cases findSub u content with
  | none => rfl
  | some i =>
    simp only
    by_cases hw : endsWith (content.take (i + u.length)) d = true
    · simp only [hw, if_true]; rfl
    · simp only [hw, Bool.false_eq_true, if_false]; rfl

theorem secNewline_some (env : Env) (cfg : Config) (s : Sec) (e : Option Bytes)
    (hne : secNewline env cfg s e ≠ []) : secNewline? env cfg s e = some (secNewline env cfg s e) := by
  unfold secNewline at hne ⊢
  cases h : secNewline? env cfg s e with
  | none => rw [h] at hne; exact absurd rfl hne
  | some nl => rfl

theorem rcNewline_of_sec {env : Env} {cfg : Config} {s : Sec} {e : Option Bytes} (ln : Nat)
    (hle : ∀ v ∈ s.get b!"line_endings", v = b!"dos" ∨ v = b!"unix")
    (hne : secNewline env cfg s e ≠ []) :
    rcNewline env cfg ln s.content (e.map Name.ofBytes) ((s.get b!"line_endings").map convert) =
      .ok (secNewline env cfg s e) := by
  have hsome := secNewline_some env cfg s e hne
  generalize secNewline env cfg s e = nl at hsome ⊢
  unfold secNewline? at hsome
  cases hg : s.get b!"line_endings" with
  | none =>
    rw [hg] at hsome
    simp only at hsome
    cases hu : encNewline env cfg e false with
    | none => rw [hu] at hsome; cases hsome
    | some u =>
      cases hd : encNewline env cfg e true with
      | none => rw [hu, hd] at hsome; cases hsome
      | some d =>
        rw [hu, hd] at hsome
        cases hsome
        exact rcNewline_guess env cfg ln s.content _ _ (guess_of_enc ln s.content hu hd)
  | some v =>
    rw [hg] at hsome
    simp only at hsome
    rcases hle v (by rw [hg]; rfl) with rfl | rfl
    · exact (rcNewline_declared env cfg ln s.content _ true).trans (newlineFor_ok_iff.mpr hsome)
    · exact (rcNewline_declared env cfg ln s.content _ false).trans (newlineFor_ok_iff.mpr hsome)

theorem ok_of_isSome {α} (x : EnvR α) (d : α) (h : (val? x).isSome = true) : x = .ok ((val? x).getD d) := by
  cases x with
  | ok a => rfl
  | err => cases h
  | missing q => cases h

theorem optConv_str (e : Option Bytes) (h : ∀ v ∈ e, convert v = .str v) : optConv e = e.map OptVal.str := by
  cases e with
  | none => rfl
  | some v =>
    simp only [optConv, Option.map_some]
    rw [h v rfl]

theorem contentEncoding_eff {c : Ctx} {s : Sec} (hal : s.id ∈ allowedNext c.prev) (hcs : s.hasContent = true) :
    contentEncoding s.id (optsOf s) (stackOf c) = optConv (effEnc c s) := by
  unfold contentEncoding effEnc
  rw [optsOf_get, ← optConv]
  by_cases hd : s.id = SecId.fileDiff
  · have : s.isDiff = true := by simp [Sec.isDiff, hd]
    rw [if_pos hd, this]
    cases s.get b!"encoding" <;> rfl
  · have : s.isDiff = false := by simp [Sec.isDiff, hd]
    rw [if_neg hd, this]
    cases s.get b!"encoding" with
    | some v => rfl
    | none =>
      simp only [optConv, Option.map_none, Bool.false_eq_true, if_false]
      exact top_inherited hal hcs

theorem rcInd_spec (s : Sec) (h : s.isPreamble = true → ∀ v ∈ s.get b!"indent", isNat (convert v) = true)
    (ln : Nat) : rcInd ln (rcIndent s.id (optsOf s)) = .ok (indentOf s) := by
  unfold rcIndent indentOf
  cases hp : s.isPreamble with
  | false =>
    rw [show preambleSections.contains s.id = false from hp]
    rfl
  | true =>
    rw [show preambleSections.contains s.id = true from hp, if_pos rfl, if_pos rfl, optsOf_get]
    cases hg : s.get b!"indent" with
    | none => rfl
    | some v =>
      have := h hp v (by rw [hg]; rfl)
      simp only [Option.map_some]
      cases hv : convert v with
      | str x => rw [hv] at this; cases this
      | int n =>
        rw [hv] at this
        have hn : ¬ n < 0 := by simpa [isNat] using this
        simp only [rcInd, hn, if_false]

/-- what `_read_content` returns on the content of a well-formed section: the bytes as they are when
bytes are kept (diff sections), else the unindented content, decoded if an encoding is in effect -/
def gotOf (env : Env) (cfg : Config) (c : Ctx) (s : Sec) : Got :=
  if rcKeep s.id then .bytes s.content
  else match effEnc c s with
    | some e => .text (decoded env e (rawText env cfg c s))
    | none => .bytes (rawText env cfg c s)

theorem isDiff_of_not_keep (s : Sec) (h : rcKeep s.id = false) : s.isDiff = false := by
  cases hd : s.isDiff with
  | false => rfl
  | true =>
    have : s.id = SecId.fileDiff := by simpa [Sec.isDiff] using hd
    rw [this] at h
    exact absurd h (by decide)

theorem rcDecode_spec {env : Env} {cfg : Config} {c : Ctx} {s : Sec} (ok : SecOk env cfg c s)
    (hcs : s.hasContent = true) (ln : Nat) :
    rcDecode env ln ((effEnc c s).map Name.ofBytes) (rcKeep s.id)
        (unindented (indentOf s) s.content (secNewline env cfg s (effEnc c s))) (secNewline env cfg s (effEnc c s)) =
      .ok (gotOf env cfg c s) := by
  unfold gotOf rawText
  cases hk : rcKeep s.id with
  | true =>
    have hpm : preambleSections.contains s.id = false ∧ metaSections.contains s.id = false := by
      simpa [rcKeep] using hk
    have hi : indentOf s = 0 := by
      unfold indentOf Sec.isPreamble
      rw [hpm.1]
      rfl
    rw [hi, rcDecode_bytes _ _ (Or.inr rfl), show unindented 0 s.content _ = s.content from rfl, ok.nlTerminated hcs]
    rfl
  | false =>
    have hdf := isDiff_of_not_keep s hk
    have hd1 := ok.decodes hcs hdf
    have hd2 := ok.decodedTerminated hcs hdf
    have hr := ok.rawTerminated hcs hdf
    unfold rawText at hd1 hd2 hr
    cases he : effEnc c s with
    | some e =>
      rw [he] at hd1 hd2
      exact rcDecode_text ln (ok_of_isSome _ [] (hd1 e rfl)) (ok_of_isSome _ [] (hd2 e rfl).1) (hd2 e rfl).2
    | none =>
      rw [he] at hr
      rw [Option.map_none, rcDecode_bytes _ _ (Or.inl rfl), hr rfl]
      rfl

theorem readContent_spec {env : Env} {cfg : Config} {c : Ctx} {s : Sec} (ok : SecOk env cfg c s)
    (hcs : s.hasContent = true) (post : Bytes) (ln : Nat) (f : Option Bool) :
    readContent env cfg ⟨s.content ++ post, ln, f⟩ s.content.length (contentEncoding s.id (optsOf s) (stackOf c))
        (rcIndent s.id (optsOf s)) ((optsOf s).get b!"line_endings") (rcKeep s.id) =
      .ok (gotOf env cfg c s,
        ⟨post, ln + (contentLines s.content (secNewline env cfg s (effEnc c s))).length, f⟩) := by
  have henc : rcEnc ln (contentEncoding s.id (optsOf s) (stackOf c)) = .ok ((effEnc c s).map Name.ofBytes) := by
    rw [contentEncoding_eff ok.allowed hcs, optConv_str _ (ok.effectiveStr hcs)]
    exact rcEnc_str ln _
  rw [optsOf_get, readContent_stages post f (rcKeep s.id) henc ok.lengthMax
    (rcNewline_of_sec ln ok.lineEndings (ok.nlNonempty hcs)) (ok.nlNonempty hcs)
    (endsWith_iff_suffix.mp (ok.nlTerminated hcs)) (rcInd_spec s ok.indent ln)]
  show rcDecode env ln _ _ (unindented (indentOf s) s.content _) _ >>= _ = _
  rw [rcDecode_spec ok hcs ln]
  rfl

theorem fmtCheck_spec {env : Env} {cfg : Config} {c : Ctx} {s : Sec} (ok : SecOk env cfg c s) :
    fmtCheck s.id (optsOf s) c.line = .ok () := by
  unfold fmtCheck
  split
  · rename_i h
    have hm : s.isMeta = true := (Bool.and_eq_true_iff.mp h).2
    rw [optsOf_get]
    cases hg : s.get b!"format" with
    | none => rfl
    | some v =>
      have := ok.format hm v (by rw [hg]; rfl)
      subst this
      rfl
  · rfl

theorem val?_eq_some {α} {x : EnvR α} {a : α} (h : val? x = some a) : x = .ok a := by
  cases x with
  | ok b => exact congrArg EnvR.ok (Option.some.inj h)
  | err => cases h
  | missing q => cases h

theorem jsonOf_gotOf (env : Env) (cfg : Config) (c : Ctx) (s : Sec) (hk : rcKeep s.id = false) :
    jsonOf env cfg c s =
      val? (match gotOf env cfg c s with | .text t => env.loadsText t | .bytes b => env.loadsBytes b) := by
  unfold jsonOf gotOf
  rw [hk]
  cases effEnc c s <;> rfl

theorem contentOf_spec {env : Env} {cfg : Config} {c : Ctx} {s : Sec} (ok : SecOk env cfg c s)
    (hcs : s.hasContent = true) :
    contentOf env s.id c.line (gotOf env cfg c s) = .ok (bodyOf env cfg c s) := by
  unfold bodyOf
  rw [hcs]
  cases hp : s.isPreamble with
  | true =>
    rw [contentOf_preamble hp]
    unfold gotOf
    rw [rcKeep_preamble hp]
    cases effEnc c s <;> rfl
  | false =>
    cases hm : s.isMeta with
    | false =>
      rw [contentOf_diff hp hm]
      unfold gotOf
      rw [rcKeep_diff hp hm]
      rfl
    | true =>
      have hj := ok.json hm
      rw [jsonOf_gotOf env cfg c s (rcKeep_meta hm)] at hj ⊢
      obtain ⟨j, hj, ho⟩ := Option.map_eq_some_iff.mp hj
      rw [hj, contentOf_meta hp hm c.line (val?_eq_some hj) ho]
      rfl

theorem render_cons (crlf : Bool) (s : Sec) (ss : List Sec) :
    render crlf (s :: ss) = renderSec crlf s ++ render crlf ss := by
  simp [render]

theorem render_append (crlf : Bool) (a b : List Sec) : render crlf (a ++ b) = render crlf a ++ render crlf b := by
  simp [render]

/-- an unsupported or missing `version` in the main header -/
theorem step_bad_version (env : Env) (cfg : Config) {chunk : Nat} (hc : 0 < chunk) {crlf : Bool} {c : Ctx}
    {bad : Sec} (H : HeaderOk c bad) (hm : bad.id = SecId.main) (hv : bad.get b!"version" ≠ some b!"1.0")
    {l : Loop} (R : Related crlf c l) {post : Bytes} (hrest : l.st.rest = renderSec crlf bad ++ post) :
    stepSection env cfg chunk l = .error (.parseError c.line none) := by
  have hh := header_step hc H R hrest
  refine (step_main env cfg hh hm).2 ?_
  show (optsOf bad).get b!"version" ≠ _
  rw [optsOf_get]
  intro h
  cases hg : bad.get b!"version" with
  | none => rw [hg] at h; cases h
  | some v =>
    rw [hg] at h hv
    simp only [Option.map_some, Option.some.injEq] at h
    have := convert_str_inj h
    subst this
    exact hv rfl

/-- a content section whose `length` is missing or not a non-negative integer -/
theorem step_bad_length (env : Env) (cfg : Config) {chunk : Nat} (hc : 0 < chunk) {crlf : Bool} {c : Ctx}
    {bad : Sec} (H : HeaderOk c bad) (hcs : bad.hasContent = true)
    (hlen : ∀ n : Nat, (bad.get b!"length").map convert ≠ some (.int n))
    {l : Loop} (R : Related crlf c l) {post : Bytes} (hrest : l.st.rest = renderSec crlf bad ++ post) :
    stepSection env cfg chunk l = .error (.parseError c.line none) := by
  have hh := header_step hc H R hrest
  refine stepSection_bad_length env cfg hh hcs ?_
  show (optsOf bad).get b!"length" = none ∨ _
  rw [optsOf_get]
  cases hg : (bad.get b!"length").map convert with
  | none => exact Or.inl rfl
  | some v =>
    cases v with
    | str x => exact Or.inr (Or.inl ⟨x, rfl⟩)
    | int n =>
      refine Or.inr (Or.inr ⟨n, rfl, ?_⟩)
      by_cases h0 : n < 0
      · exact h0
      · exfalso
        refine hlen n.toNat ?_
        rw [hg, Int.toNat_of_nonneg (by omega)]

theorem dedent_append (n : Nat) (x nl : Bytes) (h : nl.head? ≠ some 32) :
    dedent n (x ++ nl) = dedent n x ++ nl := by
  unfold dedent
  rw [takeWhile_append_stop (· == 32) x nl (by
    intro b hb
    have : b ≠ 32 := by intro e; subst e; exact h hb
    simpa using this)]
  have hk : min n (x.takeWhile (· == 32)).length ≤ x.length :=
    Nat.le_trans (Nat.min_le_right _ _) (List.takeWhile_sublist _).length_le
  rw [List.drop_append_of_le_length hk]

/-- `SecOk.rawTerminated` is automatic when the newline does not start with a space -/
theorem unindented_terminated {n : Nat} {content nl : Bytes} (hne : nl ≠ [])
    (hend : endsWith content nl = true) (h32 : nl.head? ≠ some 32) :
    endsWith (unindented n content nl) nl = true := by
  unfold unindented
  by_cases hn : n = 0
  · rw [if_pos hn]; exact hend
  · rw [if_neg hn]
    have hs : nl <:+ content := endsWith_iff_suffix.mp hend
    obtain ⟨ls, x, hx⟩ := splitLines_last_suffix hne hs
    unfold contentLines
    rw [hx]
    simp only [List.map_append, List.map_cons, List.map_nil, List.flatten_append, List.flatten_cons,
      List.flatten_nil, List.append_nil, dedent_append n x nl h32]
    rw [endsWith_iff_suffix]
    rw [← List.append_assoc]
    exact List.suffix_append _ _

theorem main_of_allowed_start {id : SecId} (h : id ∈ allowedNext Ctx.start.prev) : id = SecId.main := by
  simpa [Ctx.start, allowedNext] using h

theorem wf_head {env : Env} {cfg : Config} {doc : List Sec} (wf : WF env cfg doc) :
    ∃ s0 rest, doc = s0 :: rest ∧ s0.id = SecId.main := by
  obtain ⟨hne, hs⟩ := wf
  cases doc with
  | nil => exact absurd rfl hne
  | cons s ss => exact ⟨s, ss, rfl, main_of_allowed_start hs.1.allowed⟩

end Diffx.SpecFile
