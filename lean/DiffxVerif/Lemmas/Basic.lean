import DiffxVerif.Model.Basic
import DiffxVerif.Model.Env
/-!
# What the functions of `Model/Basic.lean` compute

`endsWith` / `startsWith` as the suffix / prefix relations, `findSub [c]` as "the first `c`",
`pyStrip` being empty; a property of all bytes as a closed statement (`forall_u8`); list and option
facts core lacks; `Text.ofAscii` / `Text.toAscii` (`Model/Env.lean`) as inverse maps on ASCII.
-/
namespace Diffx

variable {α : Type} [BEq α] [LawfulBEq α]

theorem endsWith_iff_suffix {a b : List α} : endsWith a b = true ↔ b <:+ a := by
  simp [endsWith, List.isSuffixOf_iff_suffix]

theorem startsWith_iff_prefix (a b : List α) : startsWith a b = true ↔ b <+: a := by
  simp [startsWith, List.isPrefixOf_iff_prefix]

theorem endsWith_crlf {h nl : Bytes} (hnl : nl = [10] ∨ nl = [13, 10]) (hb : ∀ b ∈ h, b ≠ 10 ∧ b ≠ 13) :
    endsWith (h ++ nl) [13, 10] = (nl == [13, 10]) := by
  rcases hnl with rfl | rfl
  · have : ¬ ([13, 10] : Bytes) <:+ h ++ [10] := by
      rintro ⟨t, ht⟩
      have h1 : t ++ [13] ++ [10] = h ++ [10] := by simpa using ht
      have h2 := List.append_inj_left' h1 rfl
      exact (hb 13 (by rw [← h2]; simp)).2 rfl
    rw [← endsWith_iff_suffix, Bool.not_eq_true] at this
    rw [this]; rfl
  · rw [endsWith_iff_suffix.2 (List.suffix_append _ _)]; rfl

theorem findSub_some_prefix {p l : List α} {i : Nat} (h : findSub p l = some i) :
    i ≤ l.length ∧ p <+: l.drop i := by
  induction l generalizing i with
  | nil =>
    simp only [findSub] at h
    split at h
    · cases h
      simp_all
    · cases h
  | cons b r ih =>
    simp only [findSub] at h
    split at h
    · cases h
      exact ⟨Nat.zero_le _, List.isPrefixOf_iff_prefix.mp ‹_›⟩
    · obtain ⟨j, hj, rfl⟩ := Option.map_eq_some_iff.mp h
      exact ⟨Nat.succ_le_succ (ih hj).1, (ih hj).2⟩

theorem findSub_some_le {p l : List α} {i : Nat} (h : findSub p l = some i) : i + p.length ≤ l.length := by
  obtain ⟨hi, hp⟩ := findSub_some_prefix h
  have := hp.length_le
  rw [List.length_drop] at this
  omega

theorem findSub_singleton_cons (c x : α) (r : List α) :
    findSub [c] (x :: r) = if c == x then some 0 else (findSub [c] r).map (· + 1) := by
  by_cases h : c = x <;> simp [findSub, List.isPrefixOf, h]

theorem findSub_singleton_eq_none_iff (c : α) (l : List α) : findSub [c] l = none ↔ c ∉ l := by
  induction l with
  | nil => simp [findSub]
  | cons x r ih =>
    rw [findSub_singleton_cons]
    by_cases h : c = x
    · simp [h]
    · simp [h, ih]

theorem findSub_singleton_eq_some_iff (c : α) (l : List α) (i : Nat) :
    findSub [c] l = some i ↔ ∃ a b, l = a ++ c :: b ∧ c ∉ a ∧ i = a.length := by
  induction l generalizing i with
  | nil => simp [findSub]
  | cons x r ih =>
    rw [findSub_singleton_cons]
    by_cases h : c = x
    · subst h
      simp only [beq_self_eq_true, if_true, Option.some.injEq]
      constructor
      · rintro rfl
        exact ⟨[], r, rfl, by simp, rfl⟩
      · rintro ⟨a, b, hl, ha, rfl⟩
        cases a with
        | nil => rfl
        | cons y a => exact absurd (List.cons.inj hl).1 (fun e => ha (by simp [e]))
    · simp only [beq_iff_eq, h, if_false, Option.map_eq_some_iff]
      constructor
      · rintro ⟨j, hj, rfl⟩
        obtain ⟨a, b, rfl, ha, rfl⟩ := (ih j).1 hj
        exact ⟨x :: a, b, rfl, by simp [h, ha], rfl⟩
      · rintro ⟨a, b, hl, ha, rfl⟩
        cases a with
        | nil => exact absurd (List.cons.inj hl).1.symm h
        | cons y a =>
          obtain ⟨rfl, rfl⟩ := List.cons.inj hl
          exact ⟨a.length, (ih _).2 ⟨a, b, rfl, fun hm => ha (by simp [hm]), rfl⟩, rfl⟩

theorem findSub_singleton_lt {c : α} {l : List α} {i : Nat} (h : findSub [c] l = some i) : i < l.length :=
  findSub_some_le h

theorem findSub_singleton_append_some {c : α} {a : List α} {i : Nat} (b : List α)
    (h : findSub [c] a = some i) : findSub [c] (a ++ b) = some i := by
  obtain ⟨a', b', rfl, ha, rfl⟩ := (findSub_singleton_eq_some_iff c a i).1 h
  exact (findSub_singleton_eq_some_iff ..).2 ⟨a', b' ++ b, by simp, ha, rfl⟩

theorem findSub_singleton_append_none {c : α} {a : List α} (b : List α) (h : findSub [c] a = none) :
    findSub [c] (a ++ b) = (findSub [c] b).map (· + a.length) := by
  have ha := (findSub_singleton_eq_none_iff c a).1 h
  cases hb : findSub [c] b with
  | none =>
    exact (findSub_singleton_eq_none_iff ..).2 (by simp [ha, (findSub_singleton_eq_none_iff c b).1 hb])
  | some j =>
    obtain ⟨a', b', rfl, ha', rfl⟩ := (findSub_singleton_eq_some_iff c b j).1 hb
    exact (findSub_singleton_eq_some_iff ..).2 ⟨a ++ a', b', by simp, by simp [ha, ha'], by simp [Nat.add_comm]⟩

theorem dropWhile_eq_nil_iff {β : Type} (p : β → Bool) (l : List β) :
    l.dropWhile p = [] ↔ ∀ x ∈ l, p x = true := by
  induction l with
  | nil => simp
  | cons a r ih =>
    by_cases h : p a = true
    · simp [h, ih]
    · simp [h]

/-- a property of every byte is a property of the 256 numerals, a closed statement that `decide` checks -/
theorem forall_u8 (P : UInt8 → Prop) (h : ∀ n : Fin 256, P (UInt8.ofNat n.val)) : ∀ b, P b := by
  intro b
  have := h ⟨b.toNat, b.toNat_lt⟩
  simpa using this

theorem pyStrip_eq_nil_iff (l : Bytes) : pyStrip l = [] ↔ ∀ b ∈ l, isWs b = true := by
  unfold pyStrip
  rw [List.reverse_eq_nil_iff, dropWhile_eq_nil_iff]
  constructor
  · intro h b hb
    rw [← List.takeWhile_append_dropWhile (p := isWs) (l := l)] at hb
    rcases List.mem_append.mp hb with hb | hb
    · exact List.all_eq_true.mp List.all_takeWhile b hb
    · exact h b (List.mem_reverse.mpr hb)
  · intro h b hb
    exact h b ((List.dropWhile_sublist _).subset (List.mem_reverse.mp hb))

theorem drop_takeWhile_length {α} (p : α → Bool) (l : List α) :
    l.drop (l.takeWhile p).length = l.dropWhile p := by
  induction l with
  | nil => rfl
  | cons a l ih => simp only [List.takeWhile, List.dropWhile]; split <;> simp [ih]

theorem takeWhile_append_stop {β : Type} (p : β → Bool) (x nl : List β) (h : ∀ b, nl.head? = some b → p b = false) :
    (x ++ nl).takeWhile p = x.takeWhile p := by
  induction x with
  | nil =>
    cases nl with
    | nil => rfl
    | cons b r => simp [h b rfl]
  | cons a r ih =>
    simp only [List.cons_append, List.takeWhile_cons]
    split
    · rw [ih]
    · rfl

theorem findSome?_cons_orElse {α β} (f : α → Option β) (a b : α) (l : List α) :
    (a :: b :: l).findSome? f = (f a).orElse fun _ => (b :: l).findSome? f := by
  cases h : f a <;> simp [h]

theorem findSome?_eq_of_unique {α β} {f : α → Option β} {l : List α} {a : α} {b : β} (ha : a ∈ l)
    (hf : f a = some b) (hu : ∀ x ∈ l, (f x).isSome → x = a) : l.findSome? f = some b := by
  induction l with
  | nil => cases ha
  | cons c l ih =>
    rw [List.findSome?_cons]
    cases hc : f c with
    | some b' =>
      obtain rfl := hu c (List.mem_cons_self ..) (by rw [hc]; rfl)
      rw [← hf, hc]
    | none =>
      rcases List.mem_cons.mp ha with rfl | ha
      · rw [hf] at hc; cases hc
      · exact ih ha fun x hx => hu x (List.mem_cons_of_mem _ hx)

theorem forall_mem_of_eq_some {α} {o : Option α} {a : α} {P : α → Prop} (h : o = some a) (p : P a) :
    ∀ v ∈ o, P v := by
  subst h
  intro v hv
  cases hv
  exact p

theorem forall_mem_of_eq_none {α} {o : Option α} {P : α → Prop} (h : o = none) : ∀ v ∈ o, P v := by
  subst h
  intro v hv
  cases hv

theorem toAscii_ofAscii (b : Bytes) : (Text.ofAscii b).toAscii = b := by
  unfold Text.ofAscii Text.toAscii
  rw [List.map_map]
  exact List.map_id'' (fun x => by simp) b

theorem toAscii_append (a b : Text) : (a ++ b).toAscii = a.toAscii ++ b.toAscii := by
  simp [Text.toAscii]

theorem ofAscii_toAscii_of_ascii (t : Text) (h : isAsciiText t = true) : t = Text.ofAscii t.toAscii := by
  unfold Text.ofAscii Text.toAscii
  rw [List.map_map]
  refine ((List.map_congr_left fun c hc => ?_).trans (List.map_id t)).symm
  have hc' : c < 128 := by simpa using List.all_eq_true.mp h c hc
  show (UInt8.ofNat c).toNat = c
  rw [UInt8.toNat_ofNat']
  omega

theorem isAsciiText_ofAscii (b : Bytes) (hb : ∀ x ∈ b, x < 128) : isAsciiText (Text.ofAscii b) = true := by
  unfold isAsciiText Text.ofAscii
  rw [List.all_eq_true]
  intro c hc
  obtain ⟨x, hx, rfl⟩ := List.mem_map.mp hc
  have := hb x hx
  rw [UInt8.lt_iff_toNat_lt] at this
  simpa using this

theorem toAscii_lt (t : Text) (h : isAsciiText t = true) : ∀ b ∈ t.toAscii, b < 128 := by
  intro b hb
  unfold Text.toAscii at hb
  obtain ⟨c, hc, rfl⟩ := List.mem_map.mp hb
  unfold isAsciiText at h
  have hc' : c < 128 := by simpa using List.all_eq_true.mp h c hc
  rw [UInt8.lt_iff_toNat_lt]
  simp
  omega

end Diffx
