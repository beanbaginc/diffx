import DiffxVerif.Lemmas.Prepare
/-!
# One public writer call in normal form

`call_run`: a call is its argument checks (`pre`), then the order check (`validate`), then a pure
computation of the bytes to append and the new stack (`payload`); the state changes only in the last
step (`emit`).  `step_eq` restates it for `step`; `step_cases` (`StepCase`: refused / out of order /
accepted) is the case analysis every property of a single call is read off.  Errors other than the
order error are traced through the stages by `EB`.  `Writer.run` folds `step` over a call sequence;
namespace `RunRT` names the parts of that fold (`AllOk`, `runFrom`, `results`) that statements about
sequences of calls are made of (`run_ok`).
-/

namespace Diffx.Writer
open Diffx

/-- what `_new_container_section` appends and the stack it leaves, once the
order check has passed -/
def containerPayload (st : St) (name : SecName) (level : Nat) (enc : Option Name)
    (extra : List (Bytes × Option HVal)) : E (Bytes × List (Option Name)) := do
  let header ← renderHeader ⟨level - 1, name⟩ ((b!"encoding", enc.map HVal.str) :: extra)
  pure (header, pushFrame st.stack level enc)

/-- what `_new_content_section` appends (header, then content) and the stack
(unchanged), once the order check has passed -/
def contentPayload (env : Env) (cfg : Config) (st : St) (name : SecName) (content : Arg)
    (lineEndings : Option Text) (encoding : Option Name) (indent : Option Int)
    (writeLe : Bool) (inherit : Bool) (extra : List (Bytes × Option HVal)) : E (Bytes × List (Option Name)) := do
  let r ← prepareContent env cfg st content indent lineEndings encoding inherit
  let header ← renderHeader ⟨st.level, name⟩
    (extra ++ [(b!"encoding", encoding.map HVal.str), (b!"indent", indent.map HVal.int),
      (b!"length", some (HVal.int r.1.length))] ++
      (if writeLe then [(b!"line_endings", some (HVal.str r.2))] else []))
  pure (header ++ r.1, st.stack)

/-- the common end of `_new_container_section` and `_new_content_section`: the order check, then either an
error and nothing written, or the payload appended, the stack replaced and the section remembered -/
def emit (st : St) (sec : SecId) (payload : E (Bytes × List (Option Name))) : EStateM.Result CallResult St Unit :=
  match validate st sec with
  | .error e => .error e st
  | .ok _ =>
    match payload with
    | .error e => .error e st
    | .ok (b, stk) => .ok () ⟨st.out ++ b, stk, some sec⟩

theorem run_liftE_bind {α β} (x : E α) (f : α → M β) (st : St) :
    (liftE x >>= f).run st = match x with
      | .error e => .error e st
      | .ok a => (f a).run st := by
  cases x <;> rfl

theorem run_get_bind {β} (f : St → M β) (st : St) : (get >>= f).run st = (f st).run st := rfl

theorem run_modify_bind {β} (g : St → St) (f : Unit → M β) (st : St) :
    (modify g >>= f).run st = (f ()).run (g st) := rfl

theorem run_modify (g : St → St) (st : St) : (modify g : M Unit).run st = .ok () (g st) := rfl

theorem newContainer_run (name : SecName) (level : Nat) (enc : Option Name)
    (extra : List (Bytes × Option HVal)) (st : St) :
    (newContainer name level enc extra).run st =
      emit st ⟨level - 1, name⟩ (containerPayload st name level enc extra) := by
  unfold newContainer emit containerPayload
  simp only [run_get_bind, run_liftE_bind, run_modify_bind, run_modify]
  cases validate st ⟨level - 1, name⟩ with
  | error e => rfl
  | ok u => cases renderHeader ⟨level - 1, name⟩ ((b!"encoding", enc.map HVal.str) :: extra) <;> rfl

theorem newContent_run (env : Env) (cfg : Config) (name : SecName) (content : Arg)
    (lineEndings : Option Text) (encoding : Option Name) (indent : Option Int)
    (writeLe : Bool) (inherit : Bool) (extra : List (Bytes × Option HVal)) (st : St) :
    (newContent env cfg name content lineEndings encoding indent writeLe inherit extra).run st =
      emit st ⟨st.level, name⟩
        (contentPayload env cfg st name content lineEndings encoding indent writeLe inherit extra) := by
  unfold newContent emit contentPayload
  simp only [run_get_bind, run_liftE_bind, run_modify_bind, run_modify]
  cases validate st ⟨st.level, name⟩ with
  | error e => rfl
  | ok u =>
    cases prepareContent env cfg st content indent lineEndings encoding inherit with
    | error e => rfl
    | ok r =>
      obtain ⟨data, le⟩ := r
      dsimp only [Except.ok_bind]
      generalize renderHeader _ _ = rh
      cases rh with
      | error e => rfl
      | ok header => simp only [Except.ok_bind, pure, Except.pure, List.append_assoc]

/-- the id of the section a call writes: `new_change` and `new_file` at their fixed levels, content at the
level of the innermost open container -/
def secOf (st : St) : Call → SecId
  | .newChange _ => ⟨1, .change⟩
  | .newFile _ => ⟨2, .file⟩
  | .preamble .. => ⟨st.level, .preamble⟩
  | .metadata .. => ⟨st.level, .metadata⟩
  | .diff .. => ⟨st.level, .diff⟩

/-- the `indent` check of `write_preamble`: `None` or a non-negative integer -/
def preIndent : Option Int → Option CallResult
  | some n => if n < 0 then some .optionError else none
  | none => none

/-- the checks a public method makes on its arguments before `_new_content_section` is reached (content
type, mimetype, indent, metadata format, `json.dumps`): the error raised, if any -/
def pre (env : Env) : Call → Option CallResult
  | .newChange _ => none
  | .newFile _ => none
  | .preamble text _ indent _ mime =>
    match text with
    | .str _ =>
      (match mime with
       | some m =>
         if !mimetypes.contains m then some .optionError
         else preIndent indent
       | none => preIndent indent)
    | _ => some .contentError
  | .metadata m _ fmt =>
    match m with
    | .dict j =>
      (match j with
       | .obj [] => some .contentError
       | _ =>
         if !metaFormats.contains fmt then some .optionError
         else match liftEnv (env.dumps j) with
           | .error e => some e
           | .ok _ => none)
    | _ => some .contentError
  | .diff content dtype _ _ =>
    match content with
    | .bytes _ =>
      (match dtype with
       | some t => if !diffTypes.contains t then some .optionError else none
       | none => none)
    | _ => some .contentError

/-- what an accepted call appends and the stack it leaves, computed from the state without changing it -/
def payload (env : Env) (cfg : Config) (st : St) : Call → E (Bytes × List (Option Name))
  | .newChange enc => containerPayload st .change 2 enc []
  | .newFile enc => containerPayload st .file 3 enc []
  | .preamble text enc indent le mime =>
    contentPayload env cfg st .preamble text le enc indent true true [(b!"mimetype", mime.map HVal.str)]
  | .metadata m enc fmt =>
    match m with
    | .dict j =>
      (match liftEnv (env.dumps j) with
       | .ok text =>
         contentPayload env cfg st .metadata (.str text) none enc none false true
           [(b!"format", some (HVal.str fmt))]
       | .error e => .error e)
    | _ => .error .contentError
  | .diff content dtype enc le =>
    contentPayload env cfg st .diff content le enc none true false [(b!"type", dtype.map HVal.str)]

theorem call_run (env : Env) (cfg : Config) (c : Call) (st : St) :
    (call env cfg c).run st =
      match pre env c with
      | some e => .error e st
      | none => emit st (secOf st c) (payload env cfg st c) := by
  -- `call` and `pre` test the same conditions in the same order; where a test fails both sides
  -- compute to the error, where all pass the rest is `newContent`
  cases c with
  | newChange enc => exact newContainer_run ..
  | newFile enc => exact newContainer_run ..
  | preamble text enc indent le mime =>
    have key := newContent_run env cfg .preamble text le enc indent true true
      [(b!"mimetype", mime.map HVal.str)] st
    cases text <;> try rfl
    unfold call pre preIndent
    -- one test for each of `mime`, `indent` that is given
    cases mime <;> cases indent <;> dsimp only
    · exact key
    · split
      · rfl
      · exact key
    · split
      · rfl
      · exact key
    · split
      · rfl
      · split
        · rfl
        · exact key
  | metadata m enc fmt =>
    cases m <;> try rfl
    rename_i j
    -- the method after the check that the dictionary is not empty
    have tail :
        (if (!metaFormats.contains fmt) = true then
            (throw .optionError : M Unit) >>= fun _ =>
            liftE (liftEnv (env.dumps j)) >>= fun text =>
            newContent env cfg .metadata (.str text) none enc none false true
              [(b!"format", some (HVal.str fmt))]
          else
            liftE (liftEnv (env.dumps j)) >>= fun text =>
            newContent env cfg .metadata (.str text) none enc none false true
              [(b!"format", some (HVal.str fmt))]).run st =
        match (if (!metaFormats.contains fmt) = true then some CallResult.optionError
               else match liftEnv (env.dumps j) with | .error e => some e | .ok _ => none) with
        | some e => .error e st
        | none => emit st ⟨st.level, .metadata⟩ (payload env cfg st (.metadata (.dict j) enc fmt)) := by
      simp only [payload]
      split
      · rfl
      · cases liftEnv (env.dumps j) with
        | error e => rfl
        | ok text => exact newContent_run ..
    -- `{}` is refused by both sides; every other value goes on to `tail`
    cases j with
    | obj l =>
      cases l with
      | nil => rfl
      | cons => exact tail
    | _ => exact tail
  | diff content dtype enc le =>
    have key := newContent_run env cfg .diff content le enc none true false
      [(b!"type", dtype.map HVal.str)] st
    cases content <;> try rfl
    unfold call pre
    cases dtype <;> dsimp only
    · exact key
    · split
      · rfl
      · exact key

/-- an error other than the order error: what every stage but `validate` may end with -/
def Benign (e : CallResult) : Prop := e ≠ .ok ∧ e ≠ .orderError

/-- "errors benign": every error of `x` is `Benign`.  A structure and not a bare `∀`, so that the nested terms
`EB_bind h fun _ => …` elaborate against `EB (f a)` and never against its unfolding. -/
structure EB {α} (x : E α) : Prop where
  benign : ∀ e, x = .error e → Benign e

theorem EB_pure {α} {a : α} : EB (pure a : E α) := ⟨by intro e h; cases h⟩
theorem EB_throw {α} {e : CallResult} (h : Benign e) : EB (throw e : E α) :=
  ⟨by intro e' h'; cases h'; exact h⟩
theorem EB_bind {α β} {x : E α} {f : α → E β} (hx : EB x) (hf : ∀ a, EB (f a)) : EB (x >>= f) := by
  constructor
  intro e h
  cases x with
  | error e' => cases h; exact hx.1 _ rfl
  | ok a => exact (hf a).1 e h
theorem EB_liftEnv {α} {r : EnvR α} : EB (liftEnv r) := by
  constructor
  intro e h
  cases r <;> simp [liftEnv] at h <;> subst h <;> simp [Benign]

theorem benign_content : Benign .contentError := by simp [Benign]
theorem benign_option : Benign .optionError := by simp [Benign]
theorem benign_other : Benign .otherError := by simp [Benign]

theorem EB_ite {α} {c : Prop} [Decidable c] {x y : E α} (hx : EB x) (hy : EB y) : EB (if c then x else y) := by
  split <;> assumption

theorem EB_checkContent (c : Arg) : EB (checkContent c) := by
  rcases c with (_ | _) | (_ | _) | _ | _
  · exact EB_throw benign_content
  · exact EB_pure
  · exact EB_throw benign_content
  · exact EB_pure
  · exact EB_throw benign_other
  · exact EB_throw benign_other

theorem EB_checkLe (le : Option Text) : EB (checkLe le) := by
  cases le
  · exact EB_pure
  · exact EB_ite (EB_throw benign_option) (EB_pure)

theorem EB_encodeWith (env : Env) (eff : Option Name) (t : Text) : EB (encodeWith env eff t) := by
  cases eff
  · exact EB_throw benign_other
  · exact EB_liftEnv

theorem EB_pick (env : Env) (cfg : Config) (eff : Option Name) (c : Arg) (le : Option Text) :
    EB (pick env cfg eff c le) := by
  unfold pick
  split
  · exact EB_bind (EB_encodeWith ..) fun _ => EB_bind (EB_encodeWith ..) fun _ => EB_pure
  · exact EB_bind (EB_encodeWith ..) fun _ => EB_bind (EB_encodeWith ..) fun _ => EB_pure
  · exact EB_bind EB_liftEnv fun _ => EB_bind EB_liftEnv fun _ =>
      EB_bind EB_liftEnv fun _ => EB_bind EB_liftEnv fun _ => EB_pure
  · exact EB_bind EB_liftEnv fun _ => EB_pure
  · exact EB_throw benign_other

theorem EB_prepFinish (indent : Option Int) (nl d : Bytes) : EB (prepFinish indent nl d) := by
  unfold prepFinish
  cases indent
  · exact EB_pure
  · exact EB_ite (EB_pure) (EB_ite (EB_throw benign_other) (EB_pure))

theorem EB_prepareContent (env : Env) (cfg : Config) (st : St) (content : Arg) (indent : Option Int)
    (lineEndings : Option Text) (encoding : Option Name) (inherit : Bool) :
    EB (prepareContent env cfg st content indent lineEndings encoding inherit) := by
  rw [prepareContent_shape]
  exact EB_bind (EB_checkContent _) fun _ => EB_bind (EB_checkLe _) fun _ =>
    EB_bind (EB_pick ..) fun _ => EB_bind EB_liftEnv fun _ =>
    EB_bind (EB_prepFinish ..) fun _ => EB_pure

/-- `_write_section_header` skips an option whose value is `None` -/
def presentOpts (options : List (Bytes × Option HVal)) : List (Bytes × HVal) :=
  options.filterMap (fun p => p.2.map (fun v => (p.1, v)))

/-- `_write_section_header` after the value check has passed -/
def renderBody (sec : SecId) (options : List (Bytes × Option HVal)) : E Bytes :=
  let sorted := sortOpts (presentOpts options)
  let pairs : List Text := sorted.map (fun p => Text.ofAscii p.1 ++ [61] ++ p.2.text)
  let optionsStr : Text := (pairs.intersperse [44, 32]).flatten
  if !isAsciiText optionsStr then throw .otherError
  else
    let head := [35] ++ sec.bytes ++ [58]
    pure (if optionsStr.isEmpty then head ++ [10] else head ++ [32] ++ optionsStr.toAscii ++ [10])

theorem renderHeader_eq (sec : SecId) (options : List (Bytes × Option HVal)) :
    renderHeader sec options =
      if (presentOpts options).any (fun p => valueRefused p.2) then throw .optionError
      else renderBody sec options := rfl

theorem renderHeader_ok {sec : SecId} {options : List (Bytes × Option HVal)} {h : Bytes}
    (hr : renderHeader sec options = .ok h) :
    (∀ p ∈ presentOpts options, valueRefused p.2 = false) ∧ renderBody sec options = .ok h := by
  rw [renderHeader_eq] at hr
  split at hr
  · cases hr
  · rename_i hany
    refine ⟨?_, hr⟩
    intro p hp
    cases hv : valueRefused p.2 with
    | false => rfl
    | true => exact absurd (List.any_eq_true.mpr ⟨p, hp, hv⟩) hany

theorem renderHeader_refused (sec : SecId) {options : List (Bytes × Option HVal)} {p : Bytes × HVal}
    (hp : p ∈ presentOpts options) (hv : valueRefused p.2 = true) :
    renderHeader sec options = .error .optionError := by
  rw [renderHeader_eq, if_pos (List.any_eq_true.mpr ⟨p, hp, hv⟩)]
  rfl

theorem EB_renderHeader (sec : SecId) (opts : List (Bytes × Option HVal)) : EB (renderHeader sec opts) :=
  EB_ite (EB_throw benign_option) (EB_ite (EB_throw benign_other) (EB_pure))

theorem renderHeader_ne_nil {sec : SecId} {opts : List (Bytes × Option HVal)} {h : Bytes}
    (hr : renderHeader sec opts = .ok h) : h ≠ [] := by
  have hb := (renderHeader_ok hr).2
  unfold renderBody at hb
  dsimp only at hb
  split at hb
  · cases hb
  · cases hb
    split <;> simp

theorem EB_containerPayload (st : St) (name : SecName) (level : Nat) (enc : Option Name)
    (extra : List (Bytes × Option HVal)) : EB (containerPayload st name level enc extra) := by
  unfold containerPayload
  exact EB_bind (EB_renderHeader ..) fun _ => EB_pure

theorem EB_contentPayload (env : Env) (cfg : Config) (st : St) (name : SecName) (content : Arg)
    (lineEndings : Option Text) (encoding : Option Name) (indent : Option Int)
    (writeLe : Bool) (inherit : Bool) (extra : List (Bytes × Option HVal)) :
    EB (contentPayload env cfg st name content lineEndings encoding indent writeLe inherit extra) := by
  unfold contentPayload
  exact EB_bind (EB_prepareContent ..) fun _ => EB_bind (EB_renderHeader ..) fun _ => EB_pure

theorem containerPayload_ok_iff {st : St} {name : SecName} {level : Nat} {enc : Option Name}
    {extra : List (Bytes × Option HVal)} {b : Bytes} {stk : List (Option Name)} :
    containerPayload st name level enc extra = .ok (b, stk) ↔
      renderHeader ⟨level - 1, name⟩ ((b!"encoding", enc.map HVal.str) :: extra) = .ok b ∧
        stk = pushFrame st.stack level enc := by
  unfold containerPayload
  constructor
  · intro h
    obtain ⟨header, hh, h⟩ := Except.bind_ok h
    cases h
    exact ⟨hh, rfl⟩
  · rintro ⟨hh, rfl⟩
    rw [hh]
    rfl

theorem contentPayload_ok_iff {env : Env} {cfg : Config} {st : St} {name : SecName} {content : Arg}
    {lineEndings : Option Text} {encoding : Option Name} {indent : Option Int}
    {writeLe : Bool} {inherit : Bool} {extra : List (Bytes × Option HVal)} {b : Bytes}
    {stk : List (Option Name)} :
    contentPayload env cfg st name content lineEndings encoding indent writeLe inherit extra = .ok (b, stk) ↔
      ∃ data le header,
        prepareContent env cfg st content indent lineEndings encoding inherit = .ok (data, le) ∧
        renderHeader ⟨st.level, name⟩
          (extra ++ [(b!"encoding", encoding.map HVal.str), (b!"indent", indent.map HVal.int),
            (b!"length", some (HVal.int data.length))] ++
            (if writeLe then [(b!"line_endings", some (HVal.str le))] else [])) = .ok header ∧
        b = header ++ data ∧ stk = st.stack := by
  unfold contentPayload
  constructor
  · intro h
    obtain ⟨⟨data, le⟩, hp, h⟩ := Except.bind_ok h
    obtain ⟨header, hh, h⟩ := Except.bind_ok h
    cases h
    exact ⟨data, le, header, hp, hh, rfl, rfl⟩
  · rintro ⟨data, le, header, hp, hh, rfl, rfl⟩
    rw [hp, Except.ok_bind, hh]
    rfl

theorem EB_payload (env : Env) (cfg : Config) (st : St) (c : Call) : EB (payload env cfg st c) := by
  cases c with
  | newChange enc => exact EB_containerPayload ..
  | newFile enc => exact EB_containerPayload ..
  | preamble text enc indent le mime => exact EB_contentPayload ..
  | metadata m enc fmt =>
    simp only [payload]
    split
    · split
      · exact EB_contentPayload ..
      · rename_i e he; exact EB_throw (EB_liftEnv.1 _ he)
    · exact EB_throw benign_content
  | diff content dtype enc le => exact EB_contentPayload ..

theorem pre_benign {env : Env} {c : Call} {e : CallResult} (h : pre env c = some e) : Benign e := by
  unfold pre preIndent at h
  -- every leaf of `pre` is `none`, `.contentError`, `.optionError` or the error of `json.dumps`
  repeat' split at h
  all_goals cases h
  any_goals exact benign_content
  any_goals exact benign_option
  exact EB_liftEnv.1 _ ‹_›

theorem pre_none_inv {env : Env} {c : Call} (h : pre env c = none) :
    match c with
    | .newChange _ | .newFile _ => True
    | .preamble a _ indent _ mime =>
      (∃ t, a = .str t) ∧ (∀ m, mime = some m → m ∈ mimetypes) ∧ ∀ n, indent = some n → 0 ≤ n
    | .metadata a _ fmt => (∃ j, a = .dict j) ∧ fmt = Text.ofAscii b!"json"
    | .diff a ty _ _ => (∃ d, a = .bytes d) ∧ ∀ m, ty = some m → m ∈ diffTypes := by
  have hind : ∀ indent, preIndent indent = none → ∀ n, indent = some n → 0 ≤ n := by
    rintro _ hi n rfl
    simp only [preIndent] at hi
    split at hi
    · cases hi
    · exact Int.not_lt.mp ‹_›
  cases c with
  | newChange | newFile => trivial
  | preamble a enc indent le mime =>
    cases a <;> try cases h
    refine ⟨⟨_, rfl⟩, ?_⟩
    cases mime with
    | none => exact ⟨nofun, hind indent h⟩
    | some m =>
      simp only [pre] at h
      split at h
      · cases h
      · rename_i hm
        exact ⟨fun _ e => Option.some.inj e ▸ by simpa using hm, hind indent h⟩
  | metadata a enc fmt =>
    cases a <;> try cases h
    rename_i j
    simp only [pre] at h
    split at h
    · cases h
    · split at h
      · cases h
      · rename_i hf
        exact ⟨⟨j, rfl⟩, by simpa [metaFormats] using hf⟩
  | diff a ty enc le =>
    cases a <;> try cases h
    refine ⟨⟨_, rfl⟩, ?_⟩
    cases ty with
    | none => exact nofun
    | some m =>
      simp only [pre] at h
      split at h
      · cases h
      · rename_i hm
        exact fun _ e => Option.some.inj e ▸ by simpa using hm

theorem pre_none_cases {env : Env} {c : Call} (h : pre env c = none) :
    (∃ enc, c = .newChange enc) ∨ (∃ enc, c = .newFile enc) ∨
    (∃ t enc indent le mime, c = .preamble (.str t) enc indent le mime) ∨
    (∃ j enc, c = .metadata (.dict j) enc (Text.ofAscii b!"json")) ∨
    (∃ d dtype enc le, c = .diff (.bytes d) dtype enc le) := by
  have hi := pre_none_inv h
  cases c with
  | newChange enc => exact .inl ⟨enc, rfl⟩
  | newFile enc => exact .inr (.inl ⟨enc, rfl⟩)
  | preamble a enc indent le mime =>
    obtain ⟨⟨t, rfl⟩, -⟩ := hi
    exact .inr (.inr (.inl ⟨t, enc, indent, le, mime, rfl⟩))
  | metadata a enc fmt =>
    obtain ⟨⟨j, rfl⟩, rfl⟩ := hi
    exact .inr (.inr (.inr (.inl ⟨j, enc, rfl⟩)))
  | diff a ty enc le =>
    obtain ⟨⟨d, rfl⟩, -⟩ := hi
    exact .inr (.inr (.inr (.inr ⟨d, ty, enc, le, rfl⟩)))

/-- the `_stack` an accepted call leaves -/
def newStack (st : St) : Call → List (Option Name)
  | .newChange enc => pushFrame st.stack 2 enc
  | .newFile enc => pushFrame st.stack 3 enc
  | _ => st.stack

/-- the `encoding=` argument of a call -/
def callEncoding : Call → Option Name
  | .newChange e => e
  | .newFile e => e
  | .preamble _ e _ _ _ => e
  | .metadata _ e _ => e
  | .diff _ _ e _ => e

theorem valueRefused_str_false {t : Text} (h : valueRefused (.str t) = false) :
    isAsciiText t = true ∧ Header.valOk t.toAscii = true ∧
      Header.convert t.toAscii = .str t.toAscii := by
  unfold valueRefused at h
  simp only [HVal.text, Bool.or_eq_false_iff, Bool.not_eq_eq_eq_not, Bool.not_false,
    Bool.and_eq_true] at h
  obtain ⟨⟨ha, hv⟩, hc⟩ := h
  refine ⟨ha, hv, ?_⟩
  by_cases hp : Header.pyIntOk t.toAscii = true
  · simp [Header.convert, hp] at hc
  · simp [Header.convert, hp]

theorem valueRefused_false {v : HVal} (h : valueRefused v = false) :
    isAsciiText v.text = true ∧ Header.valOk v.text.toAscii = true := by
  unfold valueRefused at h
  simp only [Bool.or_eq_false_iff, Bool.not_eq_eq_eq_not, Bool.not_false, Bool.and_eq_true] at h
  exact h.1

theorem mem_presentOpts {options : List (Bytes × Option HVal)} {k : Bytes} {v : HVal} :
    (k, v) ∈ presentOpts options ↔ (k, some v) ∈ options := by
  unfold presentOpts
  rw [List.mem_filterMap]
  constructor
  · rintro ⟨⟨k', o⟩, hm, he⟩
    cases o with
    | none => cases he
    | some v' =>
      cases he
      exact hm
  · exact fun hm => ⟨(k, some v), hm, rfl⟩

theorem renderHeader_ok_value {sec : SecId} {options : List (Bytes × Option HVal)} {h : Bytes}
    (hr : renderHeader sec options = .ok h) {k : Bytes} {v : HVal} (hm : (k, some v) ∈ options) :
    valueRefused v = false :=
  (renderHeader_ok hr).1 (k, v) (mem_presentOpts.2 hm)

theorem payload_ok_cases {env : Env} {cfg : Config} {st : St} {c : Call} {x : Bytes × List (Option Name)}
    (h : payload env cfg st c = .ok x) :
    (∃ name level extra, containerPayload st name level (callEncoding c) extra = .ok x ∧
        newStack st c = pushFrame st.stack level (callEncoding c)) ∨
    (∃ name content le indent writeLe inherit extra,
        contentPayload env cfg st name content le (callEncoding c) indent writeLe inherit extra = .ok x ∧
        newStack st c = st.stack) := by
  cases c with
  | newChange enc => exact .inl ⟨_, _, _, h, rfl⟩
  | newFile enc => exact .inl ⟨_, _, _, h, rfl⟩
  | preamble text enc indent le mime => exact .inr ⟨_, _, _, _, _, _, _, h, rfl⟩
  | metadata m enc fmt =>
    simp only [payload] at h
    split at h
    · split at h
      · exact .inr ⟨_, _, _, _, _, _, _, h, rfl⟩
      · cases h
    · cases h
  | diff content dtype enc le => exact .inr ⟨_, _, _, _, _, _, _, h, rfl⟩

theorem payload_ok {env : Env} {cfg : Config} {st : St} {c : Call} {b : Bytes} {stk : List (Option Name)}
    (h : payload env cfg st c = .ok (b, stk)) : b ≠ [] ∧ stk = newStack st c := by
  rcases payload_ok_cases h with ⟨_, _, _, h, hs⟩ | ⟨_, _, _, _, _, _, _, h, hs⟩
  · obtain ⟨hh, rfl⟩ := containerPayload_ok_iff.1 h
    exact ⟨renderHeader_ne_nil hh, hs.symm⟩
  · obtain ⟨data, le, header, _, hh, rfl, rfl⟩ := contentPayload_ok_iff.1 h
    exact ⟨by simp [renderHeader_ne_nil hh], hs.symm⟩

theorem payload_ok_enc {env : Env} {cfg : Config} {st : St} {c : Call} {n : Name}
    (hn : callEncoding c = some n) {x : Bytes × List (Option Name)}
    (h : payload env cfg st c = .ok x) : valueRefused (.str n) = false := by
  obtain ⟨b, stk⟩ := x
  rcases payload_ok_cases h with ⟨_, _, _, h, _⟩ | ⟨_, _, _, _, _, _, _, h, _⟩
  · rw [hn] at h
    exact renderHeader_ok_value (containerPayload_ok_iff.1 h).1 (k := b!"encoding") (by simp)
  · rw [hn] at h
    obtain ⟨data, le, header, _, hh, _, _⟩ := contentPayload_ok_iff.1 h
    exact renderHeader_ok_value hh (k := b!"encoding") (by simp)

theorem payload_prev_none (env : Env) (cfg : Config) (st : St) (c : Call) :
    payload env cfg { st with prev := none } c = payload env cfg st c := by
  cases c <;> rfl

theorem secOf_prev_none (st : St) (c : Call) : secOf { st with prev := none } c = secOf st c := by
  cases c <;> rfl

theorem validate_eq (st : St) (sec : SecId) :
    validate st sec =
      if ∀ p, st.prev = some p → sec ∈ validNext p then .ok () else .error .orderError := by
  unfold validate
  cases st.prev with
  | none => simp [pure, Except.pure]
  | some p => by_cases h : sec ∈ validNext p <;> simp [h, pure, Except.pure, throw, throwThe, MonadExceptOf.throw]

theorem validate_ok_iff (st : St) (sec : SecId) :
    validate st sec = .ok () ↔ ∀ p, st.prev = some p → sec ∈ validNext p := by
  rw [validate_eq]
  split
  · exact ⟨fun _ => ‹_›, fun _ => rfl⟩
  · exact ⟨nofun, fun h => absurd h ‹_›⟩

theorem validate_error {st : St} {sec : SecId} {e : CallResult} (h : validate st sec = .error e) :
    e = .orderError ∧ ∃ p, st.prev = some p ∧ sec ∉ validNext p := by
  rw [validate_eq] at h
  split at h
  · cases h
  · rename_i hn
    refine ⟨(Except.error.inj h).symm, Classical.not_forall.mp hn |>.imp fun p hp => ?_⟩
    exact Classical.not_imp.mp hp

theorem step_eq (env : Env) (cfg : Config) (st : St) (c : Call) :
    step env cfg st c =
      match pre env c with
      | some e => (st, e)
      | none =>
        match validate st (secOf st c) with
        | .error e => (st, e)
        | .ok _ =>
          match payload env cfg st c with
          | .error e => (st, e)
          | .ok (b, stk) => (⟨st.out ++ b, stk, some (secOf st c)⟩, .ok) := by
  unfold step
  rw [call_run]
  cases pre env c with
  | some e => rfl
  | none =>
    simp only [emit]
    cases validate st (secOf st c) with
    | error e => rfl
    | ok u =>
      cases payload env cfg st c with
      | error e => rfl
      | ok x => rfl


theorem step_congr {env : Env} {cfg : Config} {st : St} {c c' : Call} (h1 : pre env c' = pre env c)
    (h2 : secOf st c' = secOf st c) (h3 : payload env cfg st c' = payload env cfg st c) :
    step env cfg st c' = step env cfg st c := by
  rw [step_eq, step_eq, h1, h2, h3]

/-- the three ways a call can end, each with the facts its users need -/
inductive StepCase (env : Env) (cfg : Config) (st : St) (c : Call) : Prop
  /-- refused for its arguments, or by the environment: nothing happened -/
  | refused (e : CallResult) (hb : Benign e) (hs : step env cfg st c = (st, e))
  /-- out of order: nothing happened -/
  | order (p : SecId) (hp : st.prev = some p) (hn : secOf st c ∉ validNext p)
      (hs : step env cfg st c = (st, .orderError))
  /-- accepted: a non-empty block was appended -/
  | ok (b : Bytes) (hb : b ≠ []) (hpre : pre env c = none) (hv : validate st (secOf st c) = .ok ())
      (hpl : payload env cfg st c = .ok (b, newStack st c))
      (hs : step env cfg st c = (⟨st.out ++ b, newStack st c, some (secOf st c)⟩, .ok))

theorem step_cases (env : Env) (cfg : Config) (st : St) (c : Call) : StepCase env cfg st c := by
  have hs := step_eq env cfg st c
  cases hp : pre env c with
  | some e =>
    rw [hp] at hs
    exact .refused e (pre_benign hp) hs
  | none =>
    rw [hp] at hs
    cases hv : validate st (secOf st c) with
    | error e =>
      rw [hv] at hs
      obtain ⟨rfl, p, h1, h2⟩ := validate_error hv
      exact .order p h1 h2 hs
    | ok u =>
      rw [hv] at hs
      cases hpl : payload env cfg st c with
      | error e =>
        rw [hpl] at hs
        exact .refused e ((EB_payload ..).1 _ hpl) hs
      | ok x =>
        obtain ⟨b, stk⟩ := x
        rw [hpl] at hs
        obtain ⟨hb, rfl⟩ := payload_ok hpl
        exact .ok b hb hp hv hpl hs

theorem step_atomic (env : Env) (cfg : Config) (st : St) (c : Call) :
    (step env cfg st c).2 ≠ .ok → (step env cfg st c).1 = st := by
  rcases step_cases env cfg st c with ⟨_, _, hs⟩ | ⟨_, _, _, hs⟩ | ⟨_, _, _, _, _, hs⟩
  · rw [hs]
    exact fun _ => rfl
  · rw [hs]
    exact fun _ => rfl
  · rw [hs]
    exact fun h => absurd rfl h

theorem step_accepted {env : Env} {cfg : Config} {st : St} {c : Call} (h : (step env cfg st c).2 = .ok) :
    ∃ b, b ≠ [] ∧ pre env c = none ∧ validate st (secOf st c) = .ok () ∧
      payload env cfg st c = .ok (b, newStack st c) ∧
      step env cfg st c = (⟨st.out ++ b, newStack st c, some (secOf st c)⟩, .ok) := by
  rcases step_cases env cfg st c with ⟨e, he, hs⟩ | ⟨_, _, _, hs⟩ | ⟨b, hb, hp, hv, hpl, hs⟩
  · rw [hs] at h
    exact absurd h he.1
  · rw [hs] at h
    cases h
  · exact ⟨b, hb, hp, hv, hpl, hs⟩

theorem step_pre_error {env : Env} (cfg : Config) (st : St) {c : Call} {e : CallResult}
    (h : pre env c = some e) : step env cfg st c = (st, e) := by
  rw [step_eq, h]

theorem step_prefix (env : Env) (cfg : Config) (st : St) (c : Call) :
    st.out <+: (step env cfg st c).1.out := by
  rcases step_cases env cfg st c with ⟨_, _, hs⟩ | ⟨_, _, _, hs⟩ | ⟨b, _, _, _, _, hs⟩
  · rw [hs]
    exact List.prefix_refl _
  · rw [hs]
    exact List.prefix_refl _
  · rw [hs]
    exact List.prefix_append _ _

theorem step_ok_enc {env : Env} {cfg : Config} {st : St} {c : Call} {n : Name}
    (hn : callEncoding c = some n) (h : (step env cfg st c).2 = .ok) :
    valueRefused (.str n) = false := by
  obtain ⟨b, _, _, _, hpl, _⟩ := step_accepted h
  exact payload_ok_enc hn hpl

theorem containerPayload_refused (st : St) (name : SecName) (level : Nat) {n : Name}
    (extra : List (Bytes × Option HVal)) (hv : valueRefused (.str n) = true) :
    containerPayload st name level (some n) extra = .error .optionError := by
  unfold containerPayload
  rw [renderHeader_refused _ (p := (b!"encoding", .str n)) (mem_presentOpts.2 (by simp)) hv]
  rfl

theorem init_ok_inv {enc : Option Name} {ver : Text} (hi : (init enc ver).2 = .ok) :
    ∃ b, containerPayload ⟨[], [enc], none⟩ .diffx 1 enc [(b!"version", some (HVal.str ver))] =
        .ok (b, pushFrame [enc] 1 enc) ∧
      (init enc ver).1 = ⟨b, pushFrame [enc] 1 enc, some ⟨0, .diffx⟩⟩ := by
  unfold init at hi ⊢
  split at hi
  · cases hi
  · rename_i hver
    simp only [hver] at hi ⊢
    rw [newContainer_run] at hi ⊢
    simp only [emit, validate, pure, Except.pure] at hi ⊢
    generalize hpl : containerPayload _ _ _ _ _ = pl at hi ⊢
    cases pl with
    | error e => exact absurd hi ((EB_containerPayload ..).1 _ hpl).1
    | ok x =>
      obtain ⟨b, stk⟩ := x
      obtain ⟨_, rfl⟩ := containerPayload_ok_iff.1 hpl
      exact ⟨b, hpl, rfl⟩

theorem init_ok_enc {n : Name} {ver : Text} (hi : (init (some n) ver).2 = .ok) :
    valueRefused (.str n) = false := by
  obtain ⟨b, h, _⟩ := init_ok_inv hi
  exact renderHeader_ok_value (containerPayload_ok_iff.1 h).1 (k := b!"encoding") (by simp)

end Diffx.Writer

namespace Diffx.RunRT
open Diffx Diffx.Writer

/-- every call of the sequence is accepted, starting in `st` -/
def AllOk (env : Env) (cfg : Config) : St → List Call → Prop
  | _, [] => True
  | st, c :: cs => (step env cfg st c).2 = .ok ∧ AllOk env cfg (step env cfg st c).1 cs

/-- the state after the calls, whatever their results (a refused call leaves it as it is: `step_atomic`) -/
def runFrom (env : Env) (cfg : Config) (st : St) (cs : List Call) : St :=
  cs.foldl (fun s c => (step env cfg s c).1) st

/-- the results of the calls, in order -/
def results (env : Env) (cfg : Config) : St → List Call → List CallResult
  | _, [] => []
  | st, c :: cs => (step env cfg st c).2 :: results env cfg (step env cfg st c).1 cs

theorem foldl_run (env : Env) (cfg : Config) (cs : List Call) (st : St) (rs : List CallResult) :
    cs.foldl (fun (acc : St × List CallResult) c =>
      let (st', r) := step env cfg acc.1 c
      (st', acc.2 ++ [r])) (st, rs) = (runFrom env cfg st cs, rs ++ results env cfg st cs) := by
  induction cs generalizing st rs with
  | nil => simp [runFrom, results]
  | cons c cs ih =>
    simp only [List.foldl_cons, runFrom, results]
    rw [ih]
    simp [runFrom]

theorem allOk_iff_results (env : Env) (cfg : Config) (cs : List Call) (st : St) :
    AllOk env cfg st cs ↔ ∀ r ∈ results env cfg st cs, r = .ok := by
  induction cs generalizing st with
  | nil => simp [AllOk, results]
  | cons c cs ih => simp only [AllOk, results, List.mem_cons, forall_eq_or_imp, ih]

theorem run_ok {env : Env} {cfg : Config} {enc : Option Name} {ver : Text} {calls : List Call}
    (hok : ∀ r ∈ (run env cfg enc ver calls).2, r = .ok) :
    (init enc ver).2 = .ok ∧ AllOk env cfg (init enc ver).1 calls ∧
      (run env cfg enc ver calls).1 = runFrom env cfg (init enc ver).1 calls := by
  unfold run at hok ⊢
  rcases hinit : init enc ver with ⟨st0, r0⟩
  rw [hinit] at hok
  simp only at hok ⊢
  by_cases hr : r0 = .ok
  · subst hr
    simp only [bne_self_eq_false, Bool.false_eq_true, if_false, foldl_run] at hok ⊢
    exact ⟨trivial, (allOk_iff_results env cfg calls st0).2 fun r hm => hok r (by simp [hm]), trivial⟩
  · have hne : (r0 != CallResult.ok) = true := by simpa using hr
    simp only [hne, if_true] at hok
    exact absurd (hok r0 (by simp)) hr

theorem run_of_allOk {env : Env} {cfg : Config} {enc : Option Name} {ver : Text} {cs : List Call} (hi : (init enc ver).2 = .ok)
    (hall : AllOk env cfg (init enc ver).1 cs) :
    (run env cfg enc ver cs).1 = runFrom env cfg (init enc ver).1 cs ∧
      ∀ r ∈ (run env cfg enc ver cs).2, r = .ok := by
  unfold run
  rcases hinit : init enc ver with ⟨st0, r0⟩
  rw [hinit] at hi hall
  cases hi
  simp only [bne_self_eq_false, Bool.false_eq_true, if_false, foldl_run]
  exact ⟨trivial, fun r hr => (List.mem_cons.mp hr).elim id ((allOk_iff_results env cfg cs st0).1 hall r)⟩

theorem runFrom_prefix {env : Env} {cfg : Config} (st : St) (cs : List Call) :
    st.out <+: (runFrom env cfg st cs).out := by
  induction cs generalizing st with
  | nil => exact List.prefix_refl _
  | cons c cs ih => exact List.IsPrefix.trans (step_prefix env cfg st c) (ih _)

theorem runFrom_append {env : Env} {cfg : Config} (xs ys : List Call) (st : St) :
    runFrom env cfg st (xs ++ ys) = runFrom env cfg (runFrom env cfg st xs) ys := by
  unfold runFrom
  rw [List.foldl_append]

theorem allOk_append {env : Env} {cfg : Config} {xs ys : List Call} : ∀ {st : St},
    AllOk env cfg st (xs ++ ys) ↔ AllOk env cfg st xs ∧ AllOk env cfg (runFrom env cfg st xs) ys := by
  induction xs with
  | nil => intro st; exact ⟨fun h => ⟨trivial, h⟩, fun h => h.2⟩
  | cons c xs ih =>
    intro st
    show (_ ∧ AllOk env cfg _ (xs ++ ys)) ↔ (_ ∧ _) ∧ _
    rw [ih]
    exact ⟨fun h => ⟨⟨h.1, h.2.1⟩, h.2.2⟩, fun h => ⟨h.1.1, h.1.2, h.2⟩⟩

end Diffx.RunRT
