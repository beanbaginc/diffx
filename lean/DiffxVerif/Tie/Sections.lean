import DiffxVerif.Generated.Tables
import DiffxVerif.Model.Writer
import DiffxVerif.Model.Reader
import DiffxVerif.Lemmas.Table
import DiffxVerif.Lemmas.Assoc
/-!
# Tie: section tables extracted from the working tree = the model's constants

Re-checked by the kernel on every run (the left-hand sides are regenerated from
`/repo` by `harness/extract.py`).  Equalities are stated as membership
equivalences so that the iteration order of Python sets does not matter.
-/
namespace Diffx.Tie
open Diffx

/-- the universe of ids the comparisons range over: levels 0–4 × six names -/
def allIds : List SecId := (List.range 5).flatMap fun l => SecName.all.map fun n => ⟨l, n⟩

/-- every id mentioned by the extracted tables is inside the compared universe -/
theorem tie_universe :
    Generated.badIds = [] ∧
    (∀ p ∈ Generated.validNextTable, p.1 ∈ allIds ∧ ∀ t ∈ p.2, t ∈ allIds) ∧
    (∀ s ∈ Generated.contentSections ++ Generated.preambleSections ++ Generated.metaSections, s ∈ allIds) := by
  decide +kernel

/-- a table read with `lookup … |>.getD []` has no entry outside its keys: a fact about all its
entries need only be checked key by key -/
theorem forall_getD_lookup {tbl : List (SecId × List SecId)} {P : SecId → SecId → Prop}
    (key : ∀ s ∈ tbl.map (·.1), ∀ t ∈ (tbl.lookup s).getD [], P s t) {s t : SecId}
    (h : t ∈ (tbl.lookup s).getD []) : P s t := by
  refine key s (Decidable.by_contra fun hs => ?_) t h
  rw [Assoc.lookup_none_iff.2 hs] at h
  cases h

/-- `VALID_SECTION_STATES` = `Diffx.validNext`, for every pair of ids -/
theorem tie_validNext_all (s t : SecId) : t ∈ Generated.validNext s ↔ t ∈ validNext s :=
  ⟨forall_getD_lookup (tbl := Generated.validNextTable) (P := fun s t => t ∈ validNext s) (by decide +kernel),
    forall_validNext (P := fun s t => t ∈ Generated.validNext s) (by decide +kernel)⟩

theorem contains_congr {a b : List SecId} {t : SecId} (h : t ∈ a ↔ t ∈ b) : a.contains t = b.contains t := by
  rw [Bool.eq_iff_iff, List.contains_iff_mem, List.contains_iff_mem]
  exact h

/-- `VALID_SECTION_STATES` = `Diffx.validNext` -/
theorem tie_validNext :
    ∀ s ∈ allIds, ∀ t ∈ allIds, (Generated.validNext s).contains t = (validNext s).contains t :=
  fun s _ t _ => contains_congr (tie_validNext_all s t)

/-- no key appears twice in the extracted table (a Python dict cannot, the
renderer must not) -/
theorem tie_validNext_keys : (Generated.validNextTable.map (·.1)).Nodup := by decide +kernel

/-- `PREAMBLE_SECTIONS`, `META_SECTIONS`, `CONTENT_SECTIONS` -/
theorem tie_sets :
    ∀ s ∈ allIds,
      Generated.preambleSections.contains s = preambleSections.contains s ∧
      Generated.metaSections.contains s = metaSections.contains s ∧
      Generated.contentSections.contains s = contentSections.contains s := by
  decide +kernel

/-- the nine `Section.*` constants are the nine legal ids -/
theorem tie_consts :
    ∀ s ∈ allIds, (Generated.sectionConsts.map (·.2)).contains s = SecId.legal.contains s := by
  decide +kernel

/-- option choice sets and defaults used by the writer / reader models -/
theorem tie_choices :
    Generated.lineEndings = [Text.ofAscii b!"dos", Text.ofAscii b!"unix"] ∧
    (∀ x ∈ Generated.mimetypes, x ∈ Writer.mimetypes) ∧
    (∀ x ∈ Writer.mimetypes, x ∈ Generated.mimetypes) ∧
    (∀ x ∈ Generated.diffTypes, x ∈ Writer.diffTypes) ∧
    (∀ x ∈ Writer.diffTypes, x ∈ Generated.diffTypes) ∧
    Generated.metaFormats = Writer.metaFormats ∧
    Generated.versions = Writer.supportedVersions ∧
    Generated.versions.map Text.toAscii = Reader.supportedVersions ∧
    Generated.defaultVersion ∈ Generated.versions ∧
    Generated.writerVersion = Generated.defaultVersion ∧
    Generated.newlineFormats = [(Text.ofAscii b!"dos", nlText true), (Text.ofAscii b!"unix", nlText false)] := by
  decide +kernel

end Diffx.Tie
