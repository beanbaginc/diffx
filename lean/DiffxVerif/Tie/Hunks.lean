import DiffxVerif.Generated.Tables
import DiffxVerif.Model.Hunks
/-! # Tie: constants of `utils/unified_diffs.py` -/
namespace Diffx.Tie
/-- `NO_NEWLINE_MARKER` -/
theorem tie_marker : Generated.noNewlineMarker = Hunks.marker := by decide +kernel
end Diffx.Tie
