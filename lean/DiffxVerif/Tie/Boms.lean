import DiffxVerif.Generated.Tables
import DiffxVerif.Lemmas.Codec
/-!
# Tie: the BOM table of `utils/text.py` is adequate for the BOM-emitting codecs

The platform's BOM-emitting text codecs are `utf-16`, `utf-32` (native byte
order with BOM) and `utf-8-sig`; their canonical names (`codecs.lookup(x).name`)
and BOMs are listed here and checked against CPython by the C15 check on every
run (`harness/props/c15.py`, "platform BOM table").
-/
namespace Diffx.Tie
open Diffx

/-- (canonical name, BOMs CPython may prepend when encoding) -/
def platformBoms : List (Name × List Bytes) :=
  [(Text.ofAscii b!"utf-16", [[0xFF, 0xFE], [0xFE, 0xFF]]),
   (Text.ofAscii b!"utf-32", [[0xFF, 0xFE, 0, 0], [0, 0, 0xFE, 0xFF]]),
   (Text.ofAscii b!"utf-8-sig", [[0xEF, 0xBB, 0xBF]])]

theorem tie_boms_ok :
    ∀ p ∈ platformBoms, ∀ bom ∈ p.2, bomRowOk Generated.config p.1 bom = true := by
  decide +kernel

theorem tie_boms : ∀ p ∈ platformBoms, ∀ bom ∈ p.2, BomRowFor Generated.config p.1 bom :=
  fun p hp bom hb => bomRowOk_sound _ _ _ (tie_boms_ok p hp bom hb)

theorem tie_boms_wellformed :
    ∀ row ∈ Generated.config.boms,
      row.2 ≠ [] ∧ ∀ b ∈ row.2, b ≠ [] ∧ b.length = (row.2.headD []).length := by
  decide +kernel

/-- rows exist only for Unicode codecs: no row's BOM can be a prefix of an
8-bit / EBCDIC newline (LF, CRLF, 0x25, 0x0D 0x25; also 0x15, 0x0D 0x15: CPython's EBCDIC codecs encode `\n` as
0x25, the EBCDIC LF, while code pages in the convention of cp1047, which CPython does not ship, use 0x15, the EBCDIC NL) -/
theorem tie_boms_no_ascii_clash :
    ∀ row ∈ Generated.config.boms, ∀ b ∈ row.2, ∀ nl ∈ [[10], [13, 10], [0x25], [13, 0x25], [0x15], [13, 0x15]],
      b.isPrefixOf (nl : Bytes) = false := by
  decide +kernel

end Diffx.Tie
