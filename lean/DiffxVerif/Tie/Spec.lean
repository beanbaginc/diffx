import DiffxVerif.Generated.Tables
import DiffxVerif.Spec.Hierarchy
import DiffxVerif.Tie.Sections
/-!
# Tie: the RST state tree (with two recorded errata) = `Spec.next` = the code table
-/
namespace Diffx.Tie
open Diffx

/-- the two corrections recorded in Spec/Hierarchy.lean and DESIGN.md -/
def applyErrata (o : List (SecId × List SecId)) : List (SecId × List SecId) :=
  o.map fun (k, v) =>
    if k = ⟨2, .metadata⟩ then (k, v.map fun x => if x = ⟨2, .change⟩ then ⟨1, .change⟩ else x)
    else if k = ⟨2, .preamble⟩ then (k, ⟨2, .metadata⟩ :: v)
    else (k, v)

def docNext (s : SecId) : List SecId := ((applyErrata Generated.specOutline).lookup s).getD []

/-- the documentation's tree, corrected, is the hand-written specification, for every pair of ids -/
theorem tie_specdoc_all (s t : SecId) : t ∈ docNext s ↔ t ∈ Spec.next s := by
  constructor
  · exact forall_getD_lookup (tbl := applyErrata Generated.specOutline) (P := fun s t => t ∈ Spec.next s)
      (by decide +kernel)
  · intro h
    have hs : s ∈ SecId.legal := Decidable.by_contra fun hs => by
      rw [Spec.next_of_not_legal hs] at h
      cases h
    have key : ∀ s ∈ SecId.legal, ∀ t ∈ Spec.next s, t ∈ docNext s := by decide +kernel
    exact key s hs t h

/-- the documentation's tree, corrected, is the hand-written specification -/
theorem tie_specdoc : ∀ s ∈ allIds, ∀ t ∈ allIds, (docNext s).contains t = (Spec.next s).contains t :=
  fun s _ t _ => contains_congr (tie_specdoc_all s t)

/-- every id in the documentation's tree lies in the compared universe -/
theorem tie_specdoc_universe :
    ∀ p ∈ applyErrata Generated.specOutline, p.1 ∈ allIds ∧ ∀ t ∈ p.2, t ∈ allIds := by decide +kernel

/-- the specification's hierarchy is the model's transition table -/
theorem spec_eq_model : ∀ s ∈ allIds, ∀ t ∈ allIds, (Spec.next s).contains t = (validNext s).contains t :=
  fun _ _ _ _ => contains_congr validNext_iff_spec.symm

end Diffx.Tie
