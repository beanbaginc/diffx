import DiffxVerif.Generated.Tables
import DiffxVerif.Model.Dom
/-!
# Tie: the DOM class table reflected from the working tree = the model's tables

The typed option attributes (name, option, declared type, choices), the
forwarding attributes, the per-class defaults and the DOM writer's option
remapping, as reflected from `pydiffx.dom.objects` / `dom.properties` /
`dom.writer`, equal what Model/Dom.lean uses.
-/
namespace Diffx.Tie
open Diffx Diffx.Dom

def tyName : PyType → String
  | .str => "str" | .int => "int" | .bytes => "bytes" | .dict => "dict"

/-- the model's view of a class's typed option attributes, in the extracted format -/
def modelProps (l : List (Bytes × OptionProp)) : List (Bytes × Bytes × String × Option (List Text)) :=
  l.map fun (a, p) => (a, p.option, tyName p.type, p.choices)

def subAttr : Sub → Bytes
  | .preamble => b!"preamble_section" | .metadata => b!"meta_section" | .diff => b!"diff_section"

def modelForwards (keep : Sub → Bool) : List (Bytes × Bytes × Bytes) :=
  (forwards.filter fun (_, s, _) => keep s).map fun (a, s, x) => (a, subAttr s, x)

/-- same length and every entry of `a` in `b`: order-insensitive equality of two tables when neither repeats an
entry (which is not checked here: the model's tables are literals, the extracted ones come from Python dicts) -/
def sameSet {α} [BEq α] (a b : List α) : Bool := a.length == b.length && a.all b.contains

theorem tie_dom_props :
    sameSet ((Generated.domOptionProps.lookup "DiffXPreambleSection").getD []) (modelProps (contentProps .preamble)) = true ∧
    sameSet ((Generated.domOptionProps.lookup "DiffXMetaSection").getD []) (modelProps (contentProps .metadata)) = true ∧
    sameSet ((Generated.domOptionProps.lookup "DiffXFileDiffSection").getD []) (modelProps (contentProps .diff)) = true ∧
    sameSet ((Generated.domOptionProps.lookup "DiffX").getD [])
      (modelProps [(b!"encoding", encodingProp), (b!"version", versionProp)]) = true ∧
    sameSet ((Generated.domOptionProps.lookup "DiffXChangeSection").getD []) (modelProps [(b!"encoding", encodingProp)]) = true ∧
    sameSet ((Generated.domOptionProps.lookup "DiffXFileSection").getD []) (modelProps [(b!"encoding", encodingProp)]) = true := by
  decide +kernel

theorem tie_dom_forwards :
    sameSet ((Generated.domForwards.lookup "DiffX").getD []) (modelForwards fun s => s != .diff) = true ∧
    sameSet ((Generated.domForwards.lookup "DiffXChangeSection").getD []) (modelForwards fun s => s != .diff) = true ∧
    sameSet ((Generated.domForwards.lookup "DiffXFileSection").getD []) (modelForwards fun s => s != .preamble) = true ∧
    (Generated.domForwards.lookup "DiffXPreambleSection").getD [] = [] ∧
    (Generated.domForwards.lookup "DiffXMetaSection").getD [] = [] ∧
    (Generated.domForwards.lookup "DiffXFileDiffSection").getD [] = [] := by
  decide +kernel

/-- defaults: `DiffXMetaSection` starts with `format=json` and `{}`, preamble and
diff sections with no options and `None`; content data types -/
theorem tie_dom_defaults :
    Generated.domDefaults.lookup "DiffXMetaSection" = some ([(b!"format", Text.ofAscii b!"json")], "dict", "{}") ∧
    Generated.domDefaults.lookup "DiffXPreambleSection" = some ([], "str", "None") ∧
    Generated.domDefaults.lookup "DiffXFileDiffSection" = some ([], "bytes", "None") ∧
    Generated.domDefaults.lookup "DiffX" =
      some ([(b!"encoding", Generated.config.defaultEncoding), (b!"version", Generated.writerVersion)], "None", "None") ∧
    Generated.domDefaults.lookup "DiffXChangeSection" = some ([], "None", "None") ∧
    Generated.domDefaults.lookup "DiffXFileSection" = some ([], "None", "None") ∧
    newMeta.opts = [(b!"format", .str (Text.ofAscii b!"json"))] ∧ newPreamble.opts = [] ∧ newDiff.opts = [] := by
  refine ⟨by decide, by decide, by decide, by decide, by decide, by decide, rfl, rfl, rfl⟩

/-- `_remapped_options` -/
theorem tie_dom_remapped :
    Generated.domRemapped = [(b!"diff", [(b!"type", b!"diff_type")]), (b!"meta", [(b!"format", b!"meta_format")])] := by
  decide +kernel

end Diffx.Tie
