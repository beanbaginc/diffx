import DiffxVerif.Properties.C09
import DiffxVerif.Tie.Spec
#print axioms Diffx.C09.C09_atomic
#print axioms Diffx.C09.C09_append
#print axioms Diffx.C09.C09_prefix
#print axioms Diffx.C09.C09_accepted_in_order
#print axioms Diffx.C09.C09_out_of_order_rejected
#print axioms Diffx.C09.C09_order_error_sound
#print axioms Diffx.C09.C09_accept
#print axioms Diffx.C09.C09_rejected_noop
#print axioms Diffx.C09.C09_level_invariant
#print axioms Diffx.C09.C09_negative_indent_rejected
#print axioms Diffx.C09.C09_negative_indent_optionError
#print axioms Diffx.C09.C09_unrepresentable_value_rejected
#print axioms Diffx.C09.C09_unrepresentable_encoding_rejected
#print axioms Diffx.Tie.tie_validNext
#print axioms Diffx.Tie.tie_specdoc
