import DiffxVerif.Properties.C05
import DiffxVerif.Properties.C01Closed
import DiffxVerif.Properties.C05Concrete
import DiffxVerif.Properties.C05Tree
#print axioms Diffx.C05.C05_canonical
#print axioms Diffx.C05.C05_skips_empty
#print axioms Diffx.C05.C05_load_shape
#print axioms Diffx.C05.C05_load_content_opts
#print axioms Diffx.C05.C05_load_errors
#print axioms Diffx.C05.C05_load_no_other
#print axioms Diffx.C05.C05_load_no_other_records
#print axioms Diffx.C05.C06_unknown_option_witness
#print axioms Diffx.C05.C05_calls_structural
#print axioms Diffx.C05.C05_tree_roundtrip
#print axioms Diffx.C05.C05_tree_roundtrip_structural
#print axioms Diffx.C05.C05_tree_shape
#print axioms Diffx.C05.C05_tree_main_opts
#print axioms Diffx.C05.C05_tree_skipped_main
#print axioms Diffx.C05.C05_tree_skipped
#print axioms Diffx.C05.C05_tree_main_preamble
#print axioms Diffx.C05.C05_default_indent
#print axioms Diffx.C05.C05_preamble_opts_get
#print axioms Diffx.C05.tree0_ok
#print axioms Diffx.C05.tree0_bytes
#print axioms Diffx.C05.tree0_calls
#print axioms Diffx.C05.tlaws1
#print axioms Diffx.C05.tlaws6
#print axioms Diffx.C05.treeLaws
#print axioms Diffx.C05.expectedTree0_eq
#print axioms Diffx.C05.C05_tree_instance
#print axioms Diffx.DomRT.TreeOk
#print axioms Diffx.DomRT.treeCalls
#print axioms Diffx.DomRT.expectedTree
#print axioms Diffx.DomRT.expTree
#print axioms Diffx.DomRT.expChange
#print axioms Diffx.DomRT.expFile
#print axioms Diffx.DomRT.expSec
#print axioms Diffx.DomRT.expContent
#print axioms Diffx.DomRT.preambleOpts
#print axioms Diffx.DomRT.metaOpts
#print axioms Diffx.DomRT.diffOpts
#print axioms Diffx.DomRT.load_tree
#print axioms Diffx.C05.treeBad_not_ok
#print axioms Diffx.C05.C05_kind_slot_witness
#print axioms Diffx.C05.C05_cfg_chunk_pos
#print axioms Diffx.C05.C05_tree_roundtrip_concrete
#print axioms Diffx.C05.C05_expectedTree_concrete
#print axioms Diffx.C05.C05_normalised_idempotent
#print axioms Diffx.C05.C05_normalised_spec
#print axioms Diffx.C05.C05_normalised_sections
#print axioms Diffx.C05.C05_normalised_options
#print axioms Diffx.C05.cver
#print axioms Diffx.C05.ctree
#print axioms Diffx.C05.ctree_ok
#print axioms Diffx.C05.ctree_dicts
#print axioms Diffx.C05.ctree_representable
#print axioms Diffx.C05.cbytes
#print axioms Diffx.C05.ctree_bytes
#print axioms Diffx.C05.cbytes_length
#print axioms Diffx.C05.ccalls
#print axioms Diffx.C05.ctree_calls
#print axioms Diffx.C05.cloaded
#print axioms Diffx.C05.cnormalised_eq
#print axioms Diffx.C05.C05_concrete_instance
#print axioms Diffx.C05.C05_concrete_instance_dom
#print axioms Diffx.C05.ctree2
#print axioms Diffx.C05.ctree2_ok
#print axioms Diffx.C05.ctree2_dicts
#print axioms Diffx.C05.cbytes2
#print axioms Diffx.C05.ctree2_bytes
#print axioms Diffx.C05.cbytes2_length
#print axioms Diffx.C05.ccalls2
#print axioms Diffx.C05.ctree2_calls
#print axioms Diffx.C05.cloaded2
#print axioms Diffx.C05.cnormalised2_eq
#print axioms Diffx.C05.C05_concrete_instance2
#print axioms Diffx.C05.adumps
#print axioms Diffx.C05.aenv
#print axioms Diffx.C05.atree
#print axioms Diffx.C05.ajsonLaws
#print axioms Diffx.C05.C05_tree_dicts_artefact
#print axioms Diffx.DomConc.optText
#print axioms Diffx.DomConc.indentOf
#print axioms Diffx.DomConc.typeOf
#print axioms Diffx.DomConc.normPreamble
#print axioms Diffx.DomConc.normMeta
#print axioms Diffx.DomConc.normDiff
#print axioms Diffx.DomConc.normSec
#print axioms Diffx.DomConc.normContainerOpts
#print axioms Diffx.DomConc.normFile
#print axioms Diffx.DomConc.normChange
#print axioms Diffx.DomConc.normalisedTree
#print axioms Diffx.DomConc.argOf
#print axioms Diffx.DomConc.fmtOf
#print axioms Diffx.DomConc.callOf
#print axioms Diffx.DomConc.asOptText_eq
#print axioms Diffx.DomConc.contentCall_spec
#print axioms Diffx.DomConc.preamble_norm
#print axioms Diffx.DomConc.meta_norm
#print axioms Diffx.DomConc.diff_norm
#print axioms Diffx.DomConc.secDictOk
#print axioms Diffx.DomConc.secDictIn
#print axioms Diffx.DomConc.expContent_eq
#print axioms Diffx.DomConc.expSec_eq
#print axioms Diffx.DomConc.fileDicts
#print axioms Diffx.DomConc.changeDicts
#print axioms Diffx.DomConc.treeDicts
#print axioms Diffx.DomConc.TreeDicts
#print axioms Diffx.DomConc.fileDictsIn
#print axioms Diffx.DomConc.changeDictsIn
#print axioms Diffx.DomConc.TreeDictsIn
#print axioms Diffx.DomConc.treeDictsIn_true
#print axioms Diffx.DomConc.TreeDictsIn.mono
#print axioms Diffx.DomConc.kind_ne_in
#print axioms Diffx.DomConc.expFile_eq
#print axioms Diffx.DomConc.expFiles_eq
#print axioms Diffx.DomConc.expChange_eq
#print axioms Diffx.DomConc.expChanges_eq
#print axioms Diffx.DomConc.ctorArgs_enc
#print axioms Diffx.DomConc.containerCall_enc
#print axioms Diffx.DomConc.expTree_eq
#print axioms Diffx.DomConc.dictArgs_tree
#print axioms Diffx.DomConc.dictArgIn_callOf
#print axioms Diffx.DomConc.dictsIn_tree
#print axioms Diffx.normBytes_ends
#print axioms Diffx.normBytes_of_ends
#print axioms Diffx.prepFinish_norm
#print axioms Diffx.DomConc.re_preamble
#print axioms Diffx.DomConc.re_diff
#print axioms Diffx.DomConc.reCall_any
#print axioms Diffx.DomConc.reLaws_any
#print axioms Diffx.normText_ends
#print axioms Diffx.normText_idem
#print axioms Diffx.normBytes_idem
#print axioms Diffx.DomConc.preambleOpts_read
#print axioms Diffx.DomConc.metaOpts_read
#print axioms Diffx.DomConc.diffOpts_read
#print axioms Diffx.DomConc.normContainerOpts_idem
#print axioms Diffx.DomConc.truthy_str
#print axioms Diffx.DomConc.truthy_bytes
#print axioms Diffx.DomConc.normPreamble_idem
#print axioms Diffx.DomConc.normDiff_idem
#print axioms Diffx.DomConc.normMeta_idem
#print axioms Diffx.DomConc.normSec_idem
#print axioms Diffx.DomConc.normFile_idem
#print axioms Diffx.DomConc.normChange_idem
#print axioms Diffx.C05.C05_tree_roundtrip_closed
#print axioms Diffx.C05.C06_fixed_point_closed
#print axioms Diffx.C05.ktree_ok
#print axioms Diffx.C05.ktree_dicts
#print axioms Diffx.C05.ktree_dom
#print axioms Diffx.C05.ktree_bytes
#print axioms Diffx.C05.ktreeBytes_length
#print axioms Diffx.C05.ktree_calls
#print axioms Diffx.C05.knormalised_eq
#print axioms Diffx.C05.C05_closed_instance
#print axioms Diffx.C05.C06_closed_instance
