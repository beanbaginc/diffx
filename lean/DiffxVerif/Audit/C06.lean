import DiffxVerif.Properties.C06
import DiffxVerif.Properties.C05Concrete
import DiffxVerif.Properties.C06Foreign
import DiffxVerif.Properties.C05Tree
#print axioms Diffx.C06.C06_options_verbatim
#print axioms Diffx.C06.C06_reserialise_is_run
#print axioms Diffx.C06.C06_preamble_indent_recorded
#print axioms Diffx.C06.C06_unknown_option_witness
#print axioms Diffx.C05.C05_load_shape
#print axioms Diffx.C05.C05_load_errors
#print axioms Diffx.C05.C06_tree_fixed_point
#print axioms Diffx.C05.C06_parse_serialise
#print axioms Diffx.C05.treeReLaws
#print axioms Diffx.C05.C06_tree_instance
#print axioms Diffx.DomRT.ReCallLaws
#print axioms Diffx.DomRT.ReLaws
#print axioms Diffx.C06.C06_foreign_load
#print axioms Diffx.C06.C06_foreign_container_error
#print axioms Diffx.C06.C06_foreign_preamble_error
#print axioms Diffx.C06.C06_foreign_tree_ok
#print axioms Diffx.C06.C06_foreign_shape
#print axioms Diffx.C06.C06_foreign_changes
#print axioms Diffx.C06.C06_foreign_contents
#print axioms Diffx.C06.C06_foreign_section
#print axioms Diffx.C06.C06_foreign_preamble_text
#print axioms Diffx.C06.C06_foreign_opts_get
#print axioms Diffx.C06.C06_foreign_main_opts
#print axioms Diffx.C06.C06_foreign_container_opts
#print axioms Diffx.C06.C06_foreign_absent_main
#print axioms Diffx.C06.C06_foreign_fixed_point
#print axioms Diffx.C06.C06_foreign_roundtrip
#print axioms Diffx.C06.fileDoc_wf
#print axioms Diffx.C06.fileDoc_loadable
#print axioms Diffx.C06.foreignTree_eq
#print axioms Diffx.C06.C06_foreign_load_instance
#print axioms Diffx.C06.foreignTree_bytes
#print axioms Diffx.C06.foreignTree_calls
#print axioms Diffx.C06.glaws1
#print axioms Diffx.C06.glaws5
#print axioms Diffx.C06.foreignLaws
#print axioms Diffx.C06.foreignReLaws
#print axioms Diffx.C06.C06_foreign_fixed_point_instance
#print axioms Diffx.C06.customChangeDoc_wf
#print axioms Diffx.C06.customChange_refused
#print axioms Diffx.C06.intEncChangeDoc_wf
#print axioms Diffx.C06.intEncChange_refused
#print axioms Diffx.C06.intEncMain_loaded
#print axioms Diffx.C06.noEncDoc_wf
#print axioms Diffx.C06.noEnc_refused
#print axioms Diffx.C06.customMetaDoc_wf
#print axioms Diffx.C06.customMeta_not_serialisable
#print axioms Diffx.Foreign.treeOfDoc
#print axioms Diffx.Foreign.partOf
#print axioms Diffx.Foreign.Part.add
#print axioms Diffx.Foreign.secOf
#print axioms Diffx.Foreign.contentVal
#print axioms Diffx.Foreign.kindOf
#print axioms Diffx.Foreign.Loadable
#print axioms Diffx.Foreign.loadableFrom
#print axioms Diffx.Foreign.secLoadable
#print axioms Diffx.Foreign.containerOk
#print axioms Diffx.Foreign.slotOf
#print axioms Diffx.Foreign.containerAt
#print axioms Diffx.Foreign.changeIndex
#print axioms Diffx.Foreign.fileIndex
#print axioms Diffx.Foreign.foreign_fail
#print axioms Diffx.Foreign.loadRecord_step
#print axioms Diffx.Foreign.close_step
#print axioms Diffx.Foreign.close_zip
#print axioms Diffx.Foreign.fold_zip
#print axioms Diffx.Foreign.pend
#print axioms Diffx.Foreign.treeOfDoc_shape
#print axioms Diffx.Foreign.contents_at
#print axioms Diffx.Foreign.container_at
#print axioms Diffx.C05.C06_fixed_point_concrete
#print axioms Diffx.C05.C06_parse_serialise_concrete
#print axioms Diffx.C05.C06_concrete_instance
#print axioms Diffx.C05.C06_concrete_instance2
