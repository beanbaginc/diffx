import DiffxVerif.Properties.C01
import DiffxVerif.Properties.C01Concrete
import DiffxVerif.Properties.C01Closed
import DiffxVerif.Properties.C01ClosedDom
import DiffxVerif.Properties.C01Faithful
import DiffxVerif.Properties.C01Run
#print axioms Diffx.C01.C01_header
#print axioms Diffx.C01.C01_indent_inverse
#print axioms Diffx.C01.C01_content_text
#print axioms Diffx.C01.C01_content_diff
#print axioms Diffx.C01.prepared0
#print axioms Diffx.C01.textLaws0
#print axioms Diffx.C01.C01_content_text_instance
#print axioms Diffx.C01.textLawsDos
#print axioms Diffx.C01.C01_content_text_instance_dos
#print axioms Diffx.C01.preparedDiff0
#print axioms Diffx.C01.diffLaws0
#print axioms Diffx.C01.C01_content_diff_instance
#print axioms Diffx.C01.C01_sim_step
#print axioms Diffx.C01.C01_sim_run
#print axioms Diffx.C01.C01_run
#print axioms Diffx.C01.C01_run_length
#print axioms Diffx.C01.C01_accepted_indent_nonneg
#print axioms Diffx.C01.C01_accepted_nameOk
#print axioms Diffx.C01.C01_accepted_encOk
#print axioms Diffx.C01.C01_accepted_container_nameOk
#print axioms Diffx.C01.C01_accepted_content_nameOk
#print axioms Diffx.C01.C01_init_nameOk
#print axioms Diffx.C01.C01_not_nameOk_rejected
#print axioms Diffx.C01.runProg_ok
#print axioms Diffx.C01.laws1
#print axioms Diffx.C01.laws4
#print axioms Diffx.C01.laws5
#print axioms Diffx.C01.runLaws
#print axioms Diffx.C01.runRecords_eq
#print axioms Diffx.C01.C01_run_instance
#print axioms Diffx.RunRT.ProgramLaws
#print axioms Diffx.RunRT.expectedRecords
#print axioms Diffx.C01.C01_text_equal
#print axioms Diffx.C01.C01_text_kind
#print axioms Diffx.C01.C01_textDos_spec
#print axioms Diffx.C01.C01_content_text_equal
#print axioms Diffx.C01.C01_diff_equal
#print axioms Diffx.C01.C01_record_content_equal
#print axioms Diffx.C01.C01_writtenContent_spec
#print axioms Diffx.C01.C01_diff_newline
#print axioms Diffx.C01.C01_run_content_equal
#print axioms Diffx.C01.C01_codecs_cfg
#print axioms Diffx.C01.C01_codec_decode_encode
#print axioms Diffx.C01.C01_codec_faithful
#print axioms Diffx.C01.C01_codec_newlines
#print axioms Diffx.C01.C01_codec_names
#print axioms Diffx.C01.C01_text_laws_concrete
#print axioms Diffx.C01.C01_text_laws_concrete_decoded
#print axioms Diffx.C01.C01_text_roundtrip_concrete
#print axioms Diffx.C01.C01_enc_append_needs_side_condition
#print axioms Diffx.C01.prepared16
#print axioms Diffx.C01.C01_text_roundtrip_utf16
#print axioms Diffx.C01.prepared8
#print axioms Diffx.C01.C01_text_roundtrip_utf8
#print axioms Diffx.C01.C01_text_roundtrip_latin1
#print axioms Diffx.C01.prepared16be
#print axioms Diffx.C01.C01_text_roundtrip_utf16be
#print axioms Diffx.C01.prepared32
#print axioms Diffx.C01.C01_text_roundtrip_utf32
#print axioms Diffx.C01.prepared32be
#print axioms Diffx.C01.C01_text_roundtrip_utf32be
#print axioms Diffx.C01.prepared8sig
#print axioms Diffx.C01.C01_text_roundtrip_utf8sig
#print axioms Diffx.C01.prepared1252
#print axioms Diffx.C01.C01_text_roundtrip_cp1252
#print axioms Diffx.C01.C01_run_content_instance
#print axioms Diffx.CodecFaithful
#print axioms Diffx.CodecNewlines
#print axioms Diffx.normText
#print axioms Diffx.normBytes
#print axioms Diffx.textDos
#print axioms Diffx.TextLaws.ofFaithful
#print axioms Diffx.RunRT.writtenContent
#print axioms Diffx.RunRT.CallFaithful
#print axioms Diffx.RunRT.ProgramFaithfulFrom
#print axioms Diffx.RunRT.writtenFrom
#print axioms Diffx.Codecs.env
#print axioms Diffx.Codecs.cfg
#print axioms Diffx.Codecs.Codec.encode
#print axioms Diffx.Codecs.Codec.decode
#print axioms Diffx.Codecs.Codec.nl
#print axioms Diffx.Codecs.faithful
#print axioms Diffx.Codecs.newlines
#print axioms Diffx.Codecs.stepOk_utf32
#print axioms Diffx.Codecs.nlOk_utf32
#print axioms Diffx.Codecs.cp1252Table_rows
#print axioms Diffx.Codecs.stepOk_cp1252
#print axioms Diffx.Codecs.nlOk_cp1252
#print axioms Diffx.Codecs.Codec.strip_enc
#print axioms Diffx.Codecs.lookup_nameOk
#print axioms Diffx.Text.lt
#print axioms Diffx.Text.increasing
#print axioms Diffx.Text.noSurrogatePair
#print axioms Diffx.Text.jsonStr
#print axioms Diffx.Json.Representable
#print axioms Diffx.Json.RepresentableList
#print axioms Diffx.Json.RepresentableItems
#print axioms Diffx.JsonLaws
#print axioms Diffx.JsonLaws.mono
#print axioms Diffx.Codecs.lookup_of_encode
#print axioms Diffx.Codecs.Codec.nl_facts
#print axioms Diffx.Codecs.Codec.nl_13
#print axioms Diffx.Codecs.prepared_str
#print axioms Diffx.Codecs.textLawsOf
#print axioms Diffx.Codecs.encChars_no13
#print axioms Diffx.Codecs.guessText_noCR
#print axioms Diffx.Codecs.guess_unix
#print axioms Diffx.Codecs.plain_no13
#print axioms Diffx.Codecs.diffCodec
#print axioms Diffx.Codecs.diffDos
#print axioms Diffx.Codecs.diffNl
#print axioms Diffx.Codecs.diff_prepared
#print axioms Diffx.Codecs.dictArgOk
#print axioms Diffx.Codecs.DictArgs
#print axioms Diffx.Codecs.dictArgIn
#print axioms Diffx.Codecs.DictsIn
#print axioms Diffx.Codecs.dictsIn_iff
#print axioms Diffx.Codecs.dictsIn_nil
#print axioms Diffx.Codecs.DictsIn.head
#print axioms Diffx.Codecs.DictsIn.tail
#print axioms Diffx.Codecs.dictsIn_append
#print axioms Diffx.Codecs.DictsIn.left
#print axioms Diffx.Codecs.DictsIn.right
#print axioms Diffx.Codecs.DictsIn.mono
#print axioms Diffx.Codecs.dictsIn_true
#print axioms Diffx.Codecs.callLaws_exist
#print axioms Diffx.Codecs.programLaws_exist
#print axioms Diffx.Codecs.contentOfCall
#print axioms Diffx.Codecs.secIds
#print axioms Diffx.Codecs.callFaithful_any
#print axioms Diffx.Codecs.programFaithful_any
#print axioms Diffx.Codecs.written_eq_any
#print axioms Diffx.Codecs.writtenFrom_eq
#print axioms Diffx.Codecs.expectedFrom_secs
#print axioms Diffx.Codecs.laws_of_accepted
#print axioms Diffx.C01.C01_call_laws_of_accepted
#print axioms Diffx.C01.C01_laws_of_accepted
#print axioms Diffx.C01.lawsOfAccepted
#print axioms Diffx.C01.C01_written_any
#print axioms Diffx.C01.C01_faithful_any
#print axioms Diffx.C01.C01_run_concrete
#print axioms Diffx.C01.C01_contentOfCall_spec
#print axioms Diffx.C01.C01_diffNl_spec
#print axioms Diffx.C01.C01_secIds_spec
#print axioms Diffx.C01.mockJsonLaws
#print axioms Diffx.C01.mprog_dicts
#print axioms Diffx.C01.mcontents_eq
#print axioms Diffx.C01.msecs_eq
#print axioms Diffx.C01.C01_run_concrete_instance
#print axioms Diffx.C01.jk_representable
#print axioms Diffx.C01.j2_representable
#print axioms Diffx.C01.mprog_representable
#print axioms Diffx.C01.C01_run_concrete_instance_dom
#print axioms Diffx.C01.mprog2_dicts
#print axioms Diffx.C01.mcontents2_eq
#print axioms Diffx.C01.msecs2_eq
#print axioms Diffx.C01.C01_run_concrete_instance2
#print axioms Diffx.C01.C01_diff_misaligned
#print axioms Diffx.C01.C01_json_ascii_needed
#print axioms Diffx.C01.C01_dict_arg_artefact
#print axioms Diffx.JsonText.dumps_ascii
#print axioms Diffx.JsonText.dumps_noCR
#print axioms Diffx.JsonText.dumps_last
#print axioms Diffx.JsonText.loads_dumps
#print axioms Diffx.C01.jsonLaws_closed
#print axioms Diffx.C01.C01_run_closed
#print axioms Diffx.C01.float15_lex
#print axioms Diffx.C01.kj_dom
#print axioms Diffx.C01.jk_dom
#print axioms Diffx.C01.j2_dom
#print axioms Diffx.C01.kprog_dicts
#print axioms Diffx.C01.kprog_dom
#print axioms Diffx.C01.kcontents_eq
#print axioms Diffx.C01.ksecs_eq
#print axioms Diffx.C01.C01_run_closed_instance
#print axioms Diffx.JsonText.dom_iff_representable
#print axioms Diffx.JsonText.dom_eq_representable
#print axioms Diffx.C01.jsonLaws_representable
