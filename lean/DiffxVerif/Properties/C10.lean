import DiffxVerif.Lemmas.Order
import DiffxVerif.Tie.Spec
/-!
# C10 — Reader accepts exactly the section orders the hierarchy allows

> For every sequence of syntactically valid section headers, the reader accepts
> the sequence up to and including section k and rejects section k+1 with a parse
> error exactly when section k+1 may not follow section k in the specification's
> hierarchy; the nine legal section ids are the only ones ever accepted, and the
> main header must come first and only once.

`Spec.next` (Spec/Hierarchy.lean) is the specification's hierarchy;
`Tie.tie_specdoc` ties it to the RST text, `Tie.tie_validNext` ties the model's
table to the code's `VALID_SECTION_STATES`.  The theorems hold for **every**
input byte string, environment and block size.
-/
namespace Diffx.C10
open Diffx Diffx.Reader Diffx.Header

/-- the specification's hierarchy and the transition table agree on every id -/
theorem C10_table_is_spec (s t : SecId) : t ∈ validNext s ↔ t ∈ Spec.next s :=
  validNext_iff_spec

/-- **Header level, both directions.** For a syntactically valid header line
(`structure?` succeeds) the order check rejects it — with the dedicated error —
exactly when its id is not among the ids allowed next. -/
theorem C10_reject_iff (valid : List SecId) (h : Bytes) (sec : SecId) (o : Option Bytes)
    (hs : structure? h = some (sec, o)) :
    parseHeader valid h = .error .badSection ↔ sec ∉ valid := by
  unfold parseHeader
  rw [hs]
  dsimp only
  by_cases hv : sec ∈ valid
  · -- allowed: the header is accepted, or refused with the error of `parseOpts`, which is another one
    rw [if_neg (by simpa using hv)]
    refine iff_of_false ?_ (fun hn => hn hv)
    cases o with
    | none => nofun
    | some o =>
      dsimp only
      cases hp : parseOpts h (splitCommaSpace [] o) [] with
      | ok opts => nofun
      | error e =>
        intro (he : Except.error e = .error .badSection)
        exact parseOpts_ne_badSection h _ [] (hp.trans (congrArg Except.error (Except.error.inj he)))
  · rw [if_pos (by simpa using hv)]
    exact iff_of_true rfl hv

/-- the reader turns that into a parse error positioned at the header's own
(logical) line, without a column -/
theorem C10_reject_positioned (chunk : Nat) (valid : List SecId) (st : St) (header rest' : Bytes)
    (hn : nextLine chunk (st.rest.length + 1) st.rest = some (header, rest'))
    (hnl : endsWith header (if (st.fileCrlf.getD (endsWith header [13, 10])) then [13, 10] else [10]) = true)
    (hb : parseHeader valid (header.take (header.length -
            (if (st.fileCrlf.getD (endsWith header [13, 10])) then 2 else 1))) = .error .badSection) :
    readHeader chunk valid st = .error (.parseError st.linenum none) := by
  rw [readHeader_eq, hn]
  -- whichever way the file's newline is known, the line ends with it and is refused for its id
  have key : ∀ (crlf : Bool) (k : Hdr → Option (Hdr × Nat × St)),
      endsWith header (if crlf then [13, 10] else [10]) = true →
      parseHeader valid (header.take (header.length - (if crlf then 2 else 1))) = .error .badSection →
      hdrParse valid st.linenum (if crlf then [13, 10] else [10]) header k =
        .error (.parseError st.linenum none) := by
    intro crlf k he hp
    have hlen : (if crlf then ([13, 10] : Bytes) else [10]).length = if crlf then 2 else 1 := by
      cases crlf <;> rfl
    simp only [hdrParse, he, hlen, hp]
    rfl
  cases hf : st.fileCrlf with
  | none =>
    rw [hf] at hnl hb
    exact key _ _ hnl hb
  | some b =>
    rw [hf] at hnl hb
    exact key _ _ hnl hb

/-- **One step.** Whenever the reader yields a section, that section was allowed
at that point and what is allowed next is the hierarchy's successor set. -/
theorem C10_step (env : Env) (cfg : Config) (chunk : Nat) (l : Loop) (r : Record) (l' : Loop)
    (h : stepSection env cfg chunk l = .ok (some (r, l'))) :
    r.sec ∈ l.valid ∧ l'.valid = validNext r.sec :=
  stepSection_valid h

/-- **Whole run, any input.** The ids of the sections yielded for any byte
string whatsoever form a sequence in the hierarchy's order: main first, every
later section allowed after its predecessor. -/
theorem C10_ordered (env : Env) (cfg : Config) (chunk : Nat) (data : Bytes) :
    Spec.ordered ((readAll env cfg chunk data).1.map (·.sec)) = true := by
  unfold readAll
  rcases hs : stepSection env cfg chunk (Loop.init data) with o | (_ | ⟨_, _⟩)
  · rw [readLoop_error _ hs]
    rfl
  · rw [readLoop_done _ hs]
    rfl
  · obtain ⟨h1, h2⟩ := stepSection_valid hs
    simp only [Loop.init, List.mem_singleton] at h1
    rw [readLoop_cons _ hs]
    simp only [List.map_cons, Spec.ordered, Bool.and_eq_true, beq_iff_eq]
    exact ⟨h1, readLoop_chain _ h2⟩

/-- only the nine legal ids are ever yielded -/
theorem C10_nine (env : Env) (cfg : Config) (chunk : Nat) (data : Bytes) :
    ∀ r ∈ (readAll env cfg chunk data).1, r.sec ∈ SecId.legal :=
  fun _ hr => Spec.ordered_legal (C10_ordered env cfg chunk data) _ (List.mem_map_of_mem hr)

/-- the main section comes first and only once -/
theorem C10_main_once (env : Env) (cfg : Config) (chunk : Nat) (data : Bytes) (i : Nat) (r : Record)
    (h : (readAll env cfg chunk data).1[i]? = some r) : r.sec = SecId.main ↔ i = 0 :=
  Spec.ordered_main_iff (C10_ordered env cfg chunk data) (x := r.sec) (by simp [List.getElem?_map, h])

/-- agreement of the run with the specification's "first illegal section":
no yielded prefix contains an illegal position -/
theorem C10_no_illegal_yielded (env : Env) (cfg : Config) (chunk : Nat) (data : Bytes) :
    Spec.firstIllegal ((readAll env cfg chunk data).1.map (·.sec)) = none :=
  Spec.ordered_firstIllegal (C10_ordered env cfg chunk data)

example : Spec.firstIllegal [SecId.main, SecId.change, SecId.fileMeta] = some 2 := by decide +kernel
example : Spec.ordered [SecId.main, SecId.mainMeta, SecId.change, SecId.file, SecId.fileMeta,
    SecId.fileDiff, SecId.change] = true := by decide +kernel
example : ∀ s ∈ Tie.allIds, SecId.main ∉ validNext s := by decide +kernel

end Diffx.C10
