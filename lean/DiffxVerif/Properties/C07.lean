import DiffxVerif.Lemmas.ReaderFrame
/-!
# C07 — Length frames content: truncated/damaged files never yield altered sections

> The reader takes exactly the declared number of bytes as a section's content, so
> content may contain anything without shifting section boundaries, and a file cut
> off at any byte position (or whose declared length exceeds the data present, or
> is not a non-negative integer) never makes the reader yield a section whose
> content or options differ from the intact file: the records produced before
> stopping are a prefix of the intact file's records, followed by normal end or a
> parse error.

The model has a switch `cfg.strictLength` (Model/Env.lean), `false` for the code
as it is.  With the switch on, the reader rejects a content section whose
declared length exceeds the bytes present.

* `C07_prefix_strict` is the full statement, proved for the reader with the
  check switched on, against the intact file read by the reader **as it is**.
* `C07_short_read_witness` proves that without the check the full statement is
  false of the model — the same witness is replayed on the implementation on
  every run (known finding D12; the unedited test-suite pins the acceptance of
  such a file, so the check cannot be added to the code).
* `C07_prefix_partial` is what holds for the code as it is: the records of the
  truncated file are a prefix of the intact file's, except possibly for one last
  record produced by a short read.
-/
namespace Diffx.C07
open Diffx Diffx.Reader

/-- the reader with the length check: a declared length beyond the bytes present is refused -/
def strict (cfg : Config) : Config := { cfg with strictLength := true }
/-- the reader as it is: a short read goes unnoticed -/
def lax (cfg : Config) : Config := { cfg with strictLength := false }

/-- **Framing.** What `_read_content` returns depends only on the declared number
of bytes; whatever follows them is left untouched, byte for byte. -/
theorem C07_frame (env : Env) (cfg : Config) (content r₁ r₂ : Bytes) (ln : Nat) (f : Option Bool)
    (enc ind le : Option OptVal) (kb : Bool) :
    (readContent env cfg ⟨content ++ r₁, ln, f⟩ content.length enc ind le kb).map
        (fun p => (p.1, { p.2 with rest := r₂ })) =
    (readContent env cfg ⟨content ++ r₂, ln, f⟩ content.length enc ind le kb) ∧
    ∀ got st', readContent env cfg ⟨content ++ r₁, ln, f⟩ content.length enc ind le kb = .ok (got, st') →
      st'.rest = r₁ := by
  refine ⟨?_, fun got st' h => by simpa using readContent_rest h⟩
  simp only [readContent_core, Except.map_map, List.take_left', List.drop_left']

/-- **Truncation, full statement (reader with the length check).** For every
byte string and every cut point, the records yielded for the truncated file are
a prefix of the records the reader yields for the intact file. -/
theorem C07_prefix_strict (env : Env) (cfg : Config) (chunk : Nat) (hc : 0 < chunk) (data : Bytes) (k : Nat) :
    (readAll env (strict cfg) chunk (data.take k)).1 <+: (readAll env (lax cfg) chunk data).1 := by
  have h := readLoop_cut env cfg chunk hc (data.drop k) ((data.take k).length + 1) (Loop.init (data.take k))
    (data.length + 1) (by simp [Loop.init])
  have he : (Loop.init (data.take k)).ext (data.drop k) = Loop.init data := by
    simp [Loop.init, Loop.ext]
  rw [he] at h
  exact h

/-- **Truncation, the code as it is.** On any input the reader as it is yields
exactly what the reader with the length check yields, plus at most one more
record: the section that was read short (after which the input is exhausted).
With `C07_prefix_strict`: the records of a truncated file are a prefix of the
intact file's records, except possibly for that one last short-read record. -/
theorem C07_prefix_partial (env : Env) (cfg : Config) (chunk : Nat) (data : Bytes) :
    let laxRun := (readAll env (lax cfg) chunk data).1
    let strictRun := (readAll env (strict cfg) chunk data).1
    laxRun = strictRun ∨ ∃ r, laxRun = strictRun ++ [r] :=
  readLoop_lax_vs_strict env cfg chunk _ _

/-- **Invalid length.** A content header whose `length` option is missing, not an
integer, or negative is rejected with a parse error at that header's line; the
section is not yielded. -/
theorem C07_bad_length (env : Env) (cfg : Config) (chunk : Nat) (l : Loop) (hdr : Header.Hdr) (ln : Nat) (st : St)
    (hh : readHeader chunk l.valid l.st = .ok (some (hdr, ln, st)))
    (hc : contentSections.contains hdr.sec = true)
    (hb : hdr.opts.get b!"length" = none ∨ (∃ s, hdr.opts.get b!"length" = some (.str s)) ∨
          (∃ n : Int, hdr.opts.get b!"length" = some (.int n) ∧ n < 0)) :
    stepSection env cfg chunk l = .error (.parseError ln none) :=
  stepSection_bad_length env cfg hh hc hb

/-- a minimal environment: ASCII newlines, JSON `{}` -/
def asciiEnv : Env :=
  { canon := fun n => .ok n
    encode := fun _ t => .ok (t.map (·.toUInt8))
    decode := fun _ b => .ok (b.map (·.toNat))
    loadsText := fun _ => .ok (.obj [])
    loadsBytes := fun _ => .ok (.obj [])
    dumps := fun _ => .ok [] }

def plainCfg : Config := { chunk := 96, boms := [], defaultIndent := 4, defaultEncoding := [] }

/-- an intact file: a diff of two lines, `length=6` -/
def intact : Bytes := b!"#diffx: version=1.0\n#.change:\n#..file:\n#...meta: length=3\n{}\n#...diff: length=6\n-a\n+b\n"

/-- cut after the first content line of the diff: the truncated file yields a
diff section with content `-a\n` — a section the intact file does not contain -/
theorem C07_short_read_witness :
    ¬ ((readAll asciiEnv plainCfg 96 (intact.take (intact.length - 3))).1.map (·.content) <+:
       (readAll asciiEnv plainCfg 96 intact).1.map (·.content)) := by
  -- `Content` has no `DecidableEq`: a prefix of contents would be a prefix of the diff bytes they hold,
  -- which the kernel can evaluate and refute
  intro h
  have := h.map (fun c : Content => match c with | .diff b => b | _ => [])
  simp only [List.map_map] at this
  revert this
  decide +kernel

end Diffx.C07
