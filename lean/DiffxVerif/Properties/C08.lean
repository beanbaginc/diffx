import DiffxVerif.Lemmas.ReaderTotal
/-!
# C08 — Reader error contract: any bytes give records or a positioned parse error

> Given any byte string whatsoever, iterating the streaming reader terminates and
> either completes or raises DiffXParseError whose line number lies within the
> input and whose message agrees with its line/column attributes; it never raises
> another exception type (TypeError, LookupError, UnicodeDecodeError,
> AssertionError, ...). Loading the same bytes into the object model raises only
> errors of the library's own error family, and a stream handed over for loading
> is closed whether loading succeeds or fails.

`Reader.readAll` is a total function (termination is structural: the fuel is the
input length + 1); `Outcome` lists every way iteration can stop in the model:
`done`, `parseError`, and three artefacts that the theorems below exclude
(`outOfFuel` — never; `needEnv` — only when the driver lacks an environment
answer; `assertion` — only if a codec encoded a newline as the empty string).
The object-model clauses are in Properties/C05.lean (`Dom.fromBytes`, `Dom.loadRecord`).
-/
namespace Diffx.C08
open Diffx Diffx.Reader

/-- the environment answers every call (no `missing`): true of CPython.
Defined in `Lemmas/ReaderTotal.lean` (the lemma file cannot import this one):
```
(∀ n q, env.canon n ≠ .missing q) ∧ (∀ n t q, env.encode n t ≠ .missing q) ∧
(∀ n b q, env.decode n b ≠ .missing q) ∧ (∀ t q, env.loadsText t ≠ .missing q) ∧
(∀ b q, env.loadsBytes b ≠ .missing q) ∧ (∀ j q, env.dumps j ≠ .missing q)
``` -/
abbrev EnvTotal (env : Env) : Prop := Reader.EnvTotal env

/-- no codec encodes LF / CRLF as the empty byte string (after BOM removal):
`∀ e dos raw b, env.encode e (nlText dos) = .ok raw → stripBom env cfg raw (some e) = .ok b → b ≠ []` -/
abbrev NlNonempty (env : Env) (cfg : Config) : Prop := Reader.NlNonempty env cfg

/-- every encoded newline contains the byte LF (false for EBCDIC code pages:
known finding D21):
`∀ e dos raw b, env.encode e (nlText dos) = .ok raw → stripBom env cfg raw (some e) = .ok b → (10 : UInt8) ∈ b` -/
abbrev NlHasLF (env : Env) (cfg : Config) : Prop := Reader.NlHasLF env cfg

/-- `d.count 10` -/
abbrev countLF (d : Bytes) : Nat := Reader.countLF d

/-- **Termination is real**: the recursion budget is never the reason to stop. -/
theorem C08_no_fuel_exhaustion (env : Env) (cfg : Config) (chunk : Nat) (data : Bytes) :
    (readAll env cfg chunk data).2 ≠ .outOfFuel :=
  readAll_not_outOfFuel env cfg chunk data

/-- **Records or a parse error — nothing else**, for every byte string. -/
theorem C08_outcome (env : Env) (cfg : Config) (chunk : Nat) (data : Bytes)
    (ht : EnvTotal env) (hn : NlNonempty env cfg) :
    (readAll env cfg chunk data).2 = .done ∨ ∃ n c, (readAll env cfg chunk data).2 = .parseError n c :=
  readLoop_outcome ht hn (by simp [Loop.init])

/-- **The line number lies within the input** (0-based: at most the number of LF
bytes), for codecs whose newline contains LF.  `…_partial`: the full statement
(no `NlHasLF`) is false of code and model alike (an EBCDIC code page: known finding D21). -/
theorem C08_linenum_partial (env : Env) (cfg : Config) (chunk : Nat) (hc : 0 < chunk) (data : Bytes)
    (hl : NlHasLF env cfg) (n : Nat) (c : Option Nat)
    (h : (readAll env cfg chunk data).2 = .parseError n c) :
    n ≤ countLF data := by
  have := (readLoop_inv env cfg chunk hl (data.length + 1) (Loop.init data)).2 n c h
  rwa [Loop.mu_init] at this

/-- every yielded record starts on a line within the input as well -/
theorem C08_record_lines_partial (env : Env) (cfg : Config) (chunk : Nat) (hc : 0 < chunk) (data : Bytes)
    (hl : NlHasLF env cfg) :
    ∀ r ∈ (readAll env cfg chunk data).1, r.line < countLF data := by
  intro r hr
  have := (readLoop_inv env cfg chunk hl (data.length + 1) (Loop.init data)).1 r hr
  rwa [Loop.mu_init] at this

/-- a column, when reported, is a position inside the offending header line:
it comes from `header.index(pair)`, so it is smaller than the input length -/
theorem C08_column (env : Env) (cfg : Config) (chunk : Nat) (hc : 0 < chunk) (data : Bytes) (n c : Nat)
    (h : (readAll env cfg chunk data).2 = .parseError n (some c)) : c < data.length :=
  readLoop_column h

end Diffx.C08
