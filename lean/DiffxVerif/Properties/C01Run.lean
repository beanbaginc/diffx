import DiffxVerif.Lemmas.RunRoundTrip
import DiffxVerif.Lemmas.Except
import DiffxVerif.Properties.C01
/-!
# C01 (whole sequences) — the streaming write → read round trip, composed over a program

> Whatever sequence of sections a program writes with the streaming writer,
> reading the produced bytes back with the streaming reader yields exactly one
> record per written section, in order, with the same section id and nesting
> level, the options that were given or derived, and content equal to what was
> written.

`Properties/C01.lean` proves the round trip section by section.  This file composes
it over **every accepted program** (constructor + any list of public calls):

* `ProgramLaws env cfg enc calls` (Lemmas/RunRoundTrip.lean) holds only
  (i) well-formedness of the arguments (codec names are non-empty option values that
  `int()` rejects, indents are `None` or `≥ 0`, content sizes fit `fp.read`),
  (ii) codec laws for the texts / byte strings that occur (`TextLaws`, `DiffLaws`),
  (iii) JSON laws for metadata calls (`dumps`, `loads` of the decoded text is an
  object) and the fact that `guess_line_endings` on the prepared metadata bytes finds
  the newline the writer used (the writer emits no `line_endings` option there).
  It mentions neither `readAll`, `readLoop`, `stepSection` nor `readContent`.
* `expectedRecords` is defined by recursion over the calls from the laws' data
  and the options the writer hands to `_write_section_header`
  (`Spec.reported (C02.writtenPairs …)`); it calls no `Reader.*` function.
-/
namespace Diffx.C01
open Diffx Diffx.RunRT

/-- **Simulation step.** From a writer state and a reader loop state that are `Related`
(same encoding stack, the reader allows what may follow the last section written, same
container level, file newline convention fixed to LF, `line` logical lines read), one
accepted writer call appends some bytes `b`; one reader iteration on `b ++ post` (whatever
`post`) yields the expected record, consumes exactly `b`, and re-establishes the relation. -/
theorem C01_sim_step (env : Env) (cfg : Config) (chunk : Nat) (hc : 0 < chunk) (st : Writer.St)
    (l : Reader.Loop) (line : Nat) (R : Related st l line) (c : Writer.Call)
    (hok : (Writer.step env cfg st c).2 = .ok) (L : CallLaws env cfg st c) :
    ∃ b, b ≠ [] ∧ (Writer.step env cfg st c).1.out = st.out ++ b ∧
      ∀ post, l.st.rest = b ++ post →
        ∃ l', Reader.stepSection env cfg chunk l = .ok (some ((expectedOne env cfg st line c L).1, l')) ∧
          Related (Writer.step env cfg st c).1 l' (line + (expectedOne env cfg st line c L).2) ∧
          l'.st.rest = post := by
  obtain ⟨header, hpre, hv, hr, hstep⟩ := accepted hok L
  refine ⟨header ++ (callSec env cfg st c L).2.2, by simp [Writer.renderHeader_ne_nil hr], by rw [hstep], ?_⟩
  intro post hrest
  rw [hstep]
  rcases Writer.pre_none_cases hpre with ⟨enc, rfl⟩ | ⟨enc, rfl⟩ | ⟨t, enc, indent, le, mime, rfl⟩ |
    ⟨j, enc, rfl⟩ | ⟨d, dtype, enc, le, rfl⟩
  · rw [show header ++ (callSec env cfg st (.newChange enc) L).2.2 = header from List.append_nil _] at hrest ⊢
    exact sim_container hc R (Or.inl ⟨rfl, rfl⟩) L.down hv hr hrest
  · rw [show header ++ (callSec env cfg st (.newFile enc) L).2.2 = header from List.append_nil _] at hrest ⊢
    exact sim_container hc R (Or.inr ⟨rfl, rfl⟩) L.down hv hr hrest
  · -- `write_preamble`: declared line endings, indentation, decoded text
    have hleg : (⟨st.level, .preamble⟩ : SecId) ∈ SecId.legal := (R.sec_mem _ hv).2
    obtain ⟨hp, -, -, hfd, -⟩ := legal_preamble _ hleg rfl
    refine sim_content hc R (Or.inl rfl) (k0 := b!"mimetype") (by decide) (by decide) L.text.hle L.indent_bound
      L.hlen rfl hv hr hrest (.text L.text.decoded) (.text L.text.decoded) L.text.lines ?_ ?_ ?_
    · exact fun o _ => Reader.fmtCheck_skip (.inl hp) o _
    · intro o hgenc hgind
      rw [contentEncoding_inherit R hfd L.encOk hgenc L.text.heff,
        Reader.rcIndent_preamble hp, hgind, Reader.rcKeep_preamble hp, if_pos rfl]
      exact C01_content_text env cfg st t indent le enc L.data L.leOut L.hprep L.indentOk L.hlen L.text post
        (line + 1) (some false)
    · exact Reader.contentOf_preamble hp env line _
  · -- `write_meta`: no `line_endings` option, the newline is guessed; the decoded text is parsed
    have hleg : (⟨st.level, .metadata⟩ : SecId) ∈ SecId.legal := (R.sec_mem _ hv).2
    obtain ⟨hp, hm, -, hfd, -⟩ := legal_meta _ hleg rfl
    refine sim_content hc R (Or.inr (Or.inl rfl)) (k0 := b!"format") (by decide) (by decide) L.tl.hle
      (by intro i hi; cases hi) L.hlen rfl hv hr hrest (.text L.tl.decoded) (.metadata L.parsed) L.tl.lines ?_ ?_ ?_
    · intro o hg
      have hg' : o.get b!"format" = some (.str b!"json") := by rw [hg]; decide
      unfold Reader.fmtCheck
      rw [hp, hm, hg']
      rfl
    · intro o hgenc _
      rw [contentEncoding_inherit R hfd L.encOk hgenc L.tl.heff, Reader.rcIndent_other hp, Reader.rcKeep_meta hm,
        if_neg Bool.false_ne_true]
      exact L.tl.read_back L.tl.hplain (by intro i hi; cases hi) L.hlen
        (Reader.rcNewline_guess env cfg _ _ _ _ (L.hguess (line + 1))) post (some false)
    · exact Reader.contentOf_meta hp hm line L.hloads L.hobj
  · -- `write_diff`: the section's own encoding only, the bytes as they are
    have hleg : (⟨st.level, .diff⟩ : SecId) ∈ SecId.legal := (R.sec_mem _ hv).2
    obtain ⟨hp, hm, -, hsec⟩ := legal_diff _ hleg rfl
    refine sim_content hc R (Or.inr (Or.inr rfl)) (k0 := b!"type") (by decide) (by decide) L.dl.hle
      (by intro i hi; cases hi) L.hlen rfl hv hr hrest (.bytes L.data) (.diff L.data)
      (splitLines L.data L.dl.nl true).length ?_ ?_ ?_
    · exact fun o _ => Reader.fmtCheck_skip (.inr hm) o _
    · intro o hgenc _
      have e0 : Reader.contentEncoding ⟨st.level, .diff⟩ o l.encodings = encOpt enc := by
        unfold Reader.contentEncoding; rw [if_pos hsec, hgenc]
      rw [e0, Reader.rcIndent_other hp, Reader.rcKeep_diff hp hm, if_pos rfl]
      exact (C01_content_diff env cfg st d le enc L.data L.leOut L.hprep L.hlen L.dl post
        (line + 1) (some false)).1
    · exact Reader.contentOf_diff hp hm env line _

/-- **List induction.** From related states, the reader loop run on exactly what the
remaining (accepted) calls write yields their expected records and ends normally. -/
theorem C01_sim_run (env : Env) (cfg : Config) (chunk : Nat) (hc : 0 < chunk) (cs : List Writer.Call)
    (st : Writer.St) (l : Reader.Loop) (line : Nat) (R : Related st l line)
    (hok : AllOk env cfg st cs) (Ls : ProgramLawsFrom env cfg st cs)
    (hrest : st.out ++ l.st.rest = (runFrom env cfg st cs).out)
    (fuel : Nat) (hf : l.st.rest.length < fuel) :
    Reader.readLoop env cfg chunk fuel l = (expectedFrom env cfg st line cs Ls, .done) := by
  induction cs generalizing st l line fuel with
  | nil =>
    have hnil : l.st.rest = [] := by
      have : st.out ++ l.st.rest = st.out ++ [] := by rw [hrest]; simp [runFrom]
      exact List.append_cancel_left this
    rw [Reader.readLoop_eq hf, Reader.stepSection_nil env cfg chunk hnil]
    rfl
  | cons c cs ih =>
    obtain ⟨L, Ls'⟩ := Ls
    obtain ⟨b, hb, hout, H⟩ := C01_sim_step env cfg chunk hc st l line R c hok.1 L
    obtain ⟨post, hpost⟩ := runFrom_prefix (env := env) (cfg := cfg) (Writer.step env cfg st c).1 cs
    have hfin : (runFrom env cfg st (c :: cs)).out = st.out ++ (b ++ post) := by
      show (runFrom env cfg (Writer.step env cfg st c).1 cs).out = _
      rw [← hpost, hout, List.append_assoc]
    have hr : l.st.rest = b ++ post := by
      rw [hfin] at hrest
      exact List.append_cancel_left hrest
    obtain ⟨l', hs, R', hl'⟩ := H post hr
    rw [Reader.readLoop_step hs hf,
      ih (Writer.step env cfg st c).1 l' _ R' hok.2 Ls' (by rw [hl', ← hpost]) _ (Nat.lt_succ_self _)]
    rfl

/-- **Whole-sequence round trip.** For every accepted program the reader, run (with any
positive block size) on the bytes the writer produced, yields exactly the expected records —
one per written section, in order, with its id, logical line number, options and content —
and then ends normally. -/
theorem C01_run (env : Env) (cfg : Config) (chunk : Nat) (hc : 0 < chunk)
    (enc : Name) (calls : List Writer.Call)
    (hok : ∀ r ∈ (Writer.run env cfg (some enc) (Text.ofAscii b!"1.0") calls).2, r = .ok)
    (laws : ProgramLaws env cfg enc calls) :
    Reader.readAll env cfg chunk (Writer.run env cfg (some enc) (Text.ofAscii b!"1.0") calls).1.out
      = (expectedRecords env cfg enc calls laws, .done) := by
  obtain ⟨hinit, hall, hrun⟩ := run_ok hok
  obtain ⟨header, hr, hi⟩ := init_accepted enc hinit
  obtain ⟨encOk, Ls⟩ := laws
  rw [hrun]
  unfold expectedRecords
  simp only
  generalize hst0 : (Writer.init (some enc) (Text.ofAscii b!"1.0")).1 = st0 at hall Ls ⊢
  have hst0' : st0 = ⟨header, [some enc, some enc], some ⟨0, .diffx⟩⟩ := by rw [← hst0, hi]
  obtain ⟨post, hpost⟩ := runFrom_prefix (env := env) (cfg := cfg) st0 calls
  have hout0 : st0.out = header := by rw [hst0']
  rw [hout0] at hpost
  obtain ⟨l', hs, R, hl'⟩ := main_iter env cfg hc post hr header
  rw [← hst0'] at R
  have key := C01_sim_run env cfg chunk hc calls st0 l' 1 R hall Ls (by rw [hl', hout0, ← hpost]) _
    (Nat.lt_succ_self _)
  unfold Reader.readAll
  rw [← hpost, Reader.readLoop_step hs (Nat.lt_succ_self (header ++ post).length), key]

theorem C01_run_length (env : Env) (cfg : Config) (enc : Name) (calls : List Writer.Call)
    (laws : ProgramLaws env cfg enc calls) :
    (expectedRecords env cfg enc calls laws).length = calls.length + 1 := by
  simp only [expectedRecords, List.length_cons, expectedFrom_length]

/-- **An accepted preamble call had a non-negative indent.** The `indentOk` law of
`PreambleLaws` (`indent` is `None` or `≥ 0`) is implied by acceptance: the writer rejects a
negative preamble indent. -/
theorem C01_accepted_indent_nonneg (env : Env) (cfg : Config) (st : Writer.St) (text : Writer.Arg)
    (enc : Option Name) (n : Int) (le : Option Text) (mime : Option Text)
    (hok : (Writer.step env cfg st (.preamble text enc (some n) le mime)).2 = .ok) : 0 ≤ n := by
  obtain ⟨_, _, hpre, _⟩ := Writer.step_accepted hok
  exact (Writer.pre_none_inv hpre).2.2 n rfl

/-- **An accepted call had a well-formed encoding name.** The `encOk` law of every
`CallLaws` (`NameOk`: the name is ASCII, made of option-value characters, and not something
`int()` accepts) is implied by acceptance: `_write_section_header` refuses any other value
(`DiffXOptionValueError`).  `Writer.callEncoding c` is the call's own `encoding=` argument —
`new_change` / `new_file` as well as `write_preamble` / `write_meta` / `write_diff`. -/
theorem C01_accepted_nameOk (env : Env) (cfg : Config) (st : Writer.St) (c : Writer.Call) (n : Name)
    (hn : Writer.callEncoding c = some n) (hok : (Writer.step env cfg st c).2 = .ok) : NameOk n :=
  encOk_of_accepted hok n hn

theorem C01_accepted_encOk (env : Env) (cfg : Config) (st : Writer.St) (c : Writer.Call)
    (hok : (Writer.step env cfg st c).2 = .ok) : EncOk (Writer.callEncoding c) :=
  encOk_of_accepted hok

theorem C01_accepted_container_nameOk (env : Env) (cfg : Config) (st : Writer.St) (n : Name) :
    ((Writer.step env cfg st (.newChange (some n))).2 = .ok → NameOk n) ∧
    ((Writer.step env cfg st (.newFile (some n))).2 = .ok → NameOk n) :=
  ⟨C01_accepted_nameOk env cfg st _ n rfl, C01_accepted_nameOk env cfg st _ n rfl⟩

theorem C01_accepted_content_nameOk (env : Env) (cfg : Config) (st : Writer.St) (n : Name) :
    (∀ text indent le mime,
      (Writer.step env cfg st (.preamble text (some n) indent le mime)).2 = .ok → NameOk n) ∧
    (∀ m fmt, (Writer.step env cfg st (.metadata m (some n) fmt)).2 = .ok → NameOk n) ∧
    (∀ content dtype le, (Writer.step env cfg st (.diff content dtype (some n) le)).2 = .ok → NameOk n) :=
  ⟨fun _ _ _ _ => C01_accepted_nameOk env cfg st _ n rfl,
   fun _ _ => C01_accepted_nameOk env cfg st _ n rfl,
   fun _ _ _ => C01_accepted_nameOk env cfg st _ n rfl⟩

/-- **An accepted constructor call had a well-formed encoding name**: the `encOk` field of
`ProgramLaws` is implied by `DiffXWriter(fp, encoding=n, version=v)` not raising. -/
theorem C01_init_nameOk (n : Name) (v : Text) (hok : (Writer.init (some n) v).2 = .ok) : NameOk n :=
  (nameOk_iff_not_refused n).2 (Writer.init_ok_enc hok)

/-- conversely a name that is not `NameOk` is refused by every call that carries it:
the call does not succeed and the writer is unchanged -/
theorem C01_not_nameOk_rejected (env : Env) (cfg : Config) (st : Writer.St) (c : Writer.Call) (n : Name)
    (hn : Writer.callEncoding c = some n) (hbad : ¬ NameOk n) :
    (Writer.step env cfg st c).2 ≠ .ok ∧ (Writer.step env cfg st c).1 = st := by
  have hne : (Writer.step env cfg st c).2 ≠ .ok := fun hok => hbad (C01_accepted_nameOk env cfg st c n hn hok)
  exact ⟨hne, Writer.step_atomic env cfg st c hne⟩

/-! ## Non-vacuity: a concrete program, its laws, and the conclusion as a closed true equation -/

/-- `asciiEnv` with JSON functions for which the JSON laws hold: every dict dumps to `{}`,
every text loads as the empty object -/
def runEnv : Env :=
  { asciiEnv with
    dumps := fun _ => .ok (Text.ofAscii b!"{}"),
    loadsText := fun _ => .ok (.obj []) }

def runEnc : Name := Text.ofAscii b!"latin1"

def call1 : Writer.Call :=
  .preamble (.str (Text.ofAscii b!"hi")) none (some 2) none (some (Text.ofAscii b!"text/plain"))
def call2 : Writer.Call := .newChange none
def call3 : Writer.Call := .newFile (some (Text.ofAscii b!"utf-8"))
def call4 : Writer.Call :=
  .metadata (.dict (.obj [(Text.ofAscii b!"k", .int 1)])) none (Text.ofAscii b!"json")
def call5 : Writer.Call := .diff (.bytes b!"-a\n+b") (some (Text.ofAscii b!"text")) none none

def runProg : List Writer.Call := [call1, call2, call3, call4, call5]

def rst0 : Writer.St := (Writer.init (some runEnc) (Text.ofAscii b!"1.0")).1
def rst1 : Writer.St := (Writer.step runEnv cfg0 rst0 call1).1
def rst2 : Writer.St := (Writer.step runEnv cfg0 rst1 call2).1
def rst3 : Writer.St := (Writer.step runEnv cfg0 rst2 call3).1
def rst4 : Writer.St := (Writer.step runEnv cfg0 rst3 call4).1

theorem runProg_ok :
    ∀ r ∈ (Writer.run runEnv cfg0 (some runEnc) (Text.ofAscii b!"1.0") runProg).2, r = .ok := by decide +kernel

def laws1 : PreambleLaws runEnv cfg0 rst0 (Text.ofAscii b!"hi") none (some 2) none where
  encOk := by intro n h; cases h
  indentOk := by intro i h; cases h; decide
  data := b!"  hi\n"
  leOut := Text.ofAscii b!"unix"
  hprep := Except.eq_ok_of_toOption (by decide +kernel)
  hlen := by decide
  text :=
    { encName := b!"latin1", heff := by decide +kernel, dos := false, hle := rfl, raw := [10], henc := rfl,
      nl := [10], hbom := rfl, hne := by decide, hu := by decide, hsp := by decide,
      plain := b!"hi\n", hplain := Except.eq_ok_of_toOption (by decide +kernel),
      decoded := Text.ofAscii b!"hi\n", hdec := rfl, hdecNl := rfl,
      hendT := by decide }

def laws4 : MetaLaws runEnv cfg0 rst3 (.obj [(Text.ofAscii b!"k", .int 1)]) none where
  encOk := by intro n h; cases h
  text := Text.ofAscii b!"{}"
  hdumps := rfl
  leOut := Text.ofAscii b!"unix"
  tl :=
    { encName := b!"utf-8", heff := by decide +kernel, dos := false, hle := rfl, raw := [10], henc := rfl,
      nl := [10], hbom := rfl, hne := by decide, hu := by decide, hsp := by decide,
      plain := b!"{}\n", hplain := Except.eq_ok_of_toOption (by decide +kernel),
      decoded := Text.ofAscii b!"{}\n", hdec := rfl, hdecNl := rfl,
      hendT := by decide }
  hlen := by decide
  hguess := fun _ => rfl
  parsed := .obj []
  hloads := rfl
  hobj := rfl

def laws5 : DiffCallLaws runEnv cfg0 rst4 b!"-a\n+b" none none where
  encOk := by intro n h; cases h
  data := b!"-a\n+b\n"
  leOut := Text.ofAscii b!"unix"
  hprep := rfl
  hlen := by decide
  dl :=
    { encName := none, henc := rfl, dos := false, hle := rfl, nl := [10],
      hw := by
        refine ⟨false, rfl, ?_, ?_⟩
        · intro l h; cases h
        · exact ⟨[10], [13, 10], [10], [13, 10], rfl, rfl, rfl, rfl, by decide, rfl⟩
      rawR := [10], hencR := rfl, hbomR := rfl, hne := by decide }

def runLaws : ProgramLaws runEnv cfg0 runEnc runProg where
  encOk := ⟨by decide, by decide, by decide⟩
  calls :=
    ((laws1 : CallLaws runEnv cfg0 rst0 call1),
     ((⟨by intro n h; cases h⟩ : CallLaws runEnv cfg0 rst1 call2),
      ((⟨by intro n h; cases h; exact ⟨by decide, by decide, by decide⟩⟩ : CallLaws runEnv cfg0 rst2 call3),
       ((laws4 : CallLaws runEnv cfg0 rst3 call4),
        ((laws5 : CallLaws runEnv cfg0 rst4 call5), PUnit.unit)))))

set_option maxRecDepth 8192 in
/-- the bytes written -/
example :
    (Writer.run runEnv cfg0 (some runEnc) (Text.ofAscii b!"1.0") runProg).1.out =
      b!"#diffx: encoding=latin1, version=1.0\n#.preamble: indent=2, length=5, line_endings=unix, mimetype=text/plain\n  hi\n#.change:\n#..file: encoding=utf-8\n#...meta: format=json, length=3\n{}\n#...diff: length=6, line_endings=unix, type=text\n-a\n+b\n" := by
  decide +kernel

def runRecords : List Reader.Record :=
  [⟨⟨0, .diffx⟩, 0, [(b!"encoding", .str b!"latin1"), (b!"version", .str b!"1.0")], .container⟩,
   ⟨⟨1, .preamble⟩, 1,
    [(b!"indent", .int 2), (b!"length", .int 5), (b!"line_endings", .str b!"unix"),
     (b!"mimetype", .str b!"text/plain")], .text (Text.ofAscii b!"hi\n")⟩,
   ⟨⟨1, .change⟩, 3, [], .container⟩,
   ⟨⟨2, .file⟩, 4, [(b!"encoding", .str b!"utf-8")], .container⟩,
   ⟨⟨3, .metadata⟩, 5, [(b!"format", .str b!"json"), (b!"length", .int 3)], .metadata (.obj [])⟩,
   ⟨⟨3, .diff⟩, 7, [(b!"length", .int 6), (b!"line_endings", .str b!"unix"), (b!"type", .str b!"text")],
    .diff b!"-a\n+b\n"⟩]

theorem runRecords_eq : expectedRecords runEnv cfg0 runEnc runProg runLaws = runRecords := by rfl

/-- `C01_run` instantiated (block size 7, so that headers and contents straddle blocks) … -/
theorem C01_run_instance :
    Reader.readAll runEnv cfg0 7 (Writer.run runEnv cfg0 (some runEnc) (Text.ofAscii b!"1.0") runProg).1.out =
      (runRecords, .done) := by
  rw [← runRecords_eq]
  exact C01_run runEnv cfg0 7 (by decide) runEnc runProg runProg_ok runLaws

set_option maxRecDepth 8192 in
/-- … a closed equation that is true by evaluation as well -/
example :
    Reader.readAll runEnv cfg0 7 (Writer.run runEnv cfg0 (some runEnc) (Text.ofAscii b!"1.0") runProg).1.out =
      (runRecords, .done) := by rfl

end Diffx.C01
