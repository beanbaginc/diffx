import DiffxVerif.Lemmas.Lexer
/-!
# C20 — Syntax highlighter is lossless and tags every section header

> Tokenising any text with the DiffX lexer terminates and the concatenated token
> values reproduce the input exactly; for UTF-8 DiffX files produced by the writer
> whose content contains no "#." sequence, no error token is produced and the
> header tokens are exactly the file's section headers in order.

`Lexer.lex subs text` (Model/Lexer.lean) is the model of
`DiffXLexer().get_tokens_unprocessed(text)`: the `RegexLexer` loop with the seven
DiffX rules.  The stock sub-lexers are the parameter `subs`; the only thing
assumed of them is what the property itself needs (they are lossless / produce
no error and only their own token kinds on the contents they are given).
-/
namespace Diffx.C20
open Diffx Diffx.Lexer

/-- the sub-lexers reproduce their input -/
def SubsLossless (subs : Subs) : Prop :=
  (∀ s, concatVals (subs.json s) = s) ∧ (∀ s, concatVals (subs.diff s) = s)

/-- token positions are contiguous from `start` (the recursive definition lives in
Lemmas/Lexer.lean because the lemmas are stated with it; its two equations are
restated here):
```
def Contiguous : Nat → List Tok → Prop
  | _, [] => True
  | p, t :: r => t.pos = p ∧ Contiguous (p + t.val.length) r
``` -/
abbrev Contiguous : Nat → List Tok → Prop := Lexer.Contiguous

example (p : Nat) : Contiguous p [] ↔ True := Iff.rfl
example (p : Nat) (t : Tok) (r : List Tok) :
    Contiguous p (t :: r) ↔ t.pos = p ∧ Contiguous (p + t.val.length) r := Iff.rfl

def SubsContiguous (subs : Subs) : Prop :=
  (∀ s, Contiguous 0 (subs.json s)) ∧ (∀ s, Contiguous 0 (subs.diff s))

/-- **Lossless, for every text.** -/
theorem C20_lossless (subs : Subs) (h : SubsLossless subs) (text : Str) :
    concatVals (lex subs text) = text :=
  (lex_good subs text).lossless h

/-- positions are contiguous: every character belongs to exactly one token -/
theorem C20_contiguous (subs : Subs) (h : SubsLossless subs) (hc : SubsContiguous subs) (text : Str) :
    Contiguous 0 (lex subs text) :=
  (lex_good subs text).contiguous h hc

/-- no token is empty (so the number of tokens is bounded by the length of the
text: the loop makes progress) -/
theorem C20_progress (subs : Subs) (hs : ∀ s, ∀ t ∈ subs.json s ++ subs.diff s, t.val ≠ []) (text : Str) :
    ∀ t ∈ lex subs text, t.val ≠ [] :=
  (lex_good subs text).nonempty hs

/- `Sec` is a section of a DiffX file as the lexer sees it (declared in Lemmas/Lexer.lean because
the lemmas are stated with it):
structure Sec where
  head : Head
  tag : Str
  attrs : Option Str
  content : Str
`Sec.text`, `Sec.Benign`, `SubsQuiet` and `Document`, with which the header clause is stated, are
defined there as well.
-/
example (s : Sec) : s = { head := s.head, tag := s.tag, attrs := s.attrs, content := s.content } := rfl

/-- **Headers are tagged exactly, no error token**: for a document made of
benign sections, the `Tag` tokens are the sections' tags, in order and at their
positions, and there is no `Error` token. -/
theorem C20_headers (subs : Subs) (hl : SubsLossless subs) (hq : SubsQuiet subs) (secs : List Sec)
    (hb : ∀ s ∈ secs, s.Benign) (hd : Document secs) :
    let toks := lex subs (secs.flatMap Sec.text)
    (toks.filter (·.kind == .tag)).map (·.val) = secs.map (·.tag) ∧
    ∀ t ∈ toks, t.kind ≠ .error := by
  have _ := hl
  have htail : ∀ r ∈ secs.tail, t!"#." <+: r.tag := by
    cases secs with
    | nil => simp
    | cons s rest => exact hd.2
  exact lexGo_secs hq secs hb htail _ 0 (Nat.lt_succ_self _)

def opaqueSubs : Subs :=
  { json := fun s => if s.isEmpty then [] else [⟨0, .other, s⟩]
    diff := fun s => if s.isEmpty then [] else [⟨0, .other, s⟩] }

theorem opaqueSubs_lossless : SubsLossless opaqueSubs := by
  constructor <;> intro s <;> simp [opaqueSubs, concatVals] <;> split <;> simp_all

example : SubsLossless opaqueSubs := opaqueSubs_lossless

example : (lex opaqueSubs t!"#diffx: version=1.0\n#.change:\n#..file:\n#...meta: length=3\n{}\n#...diff: length=9\ndelta 5\n-a\n").map
      (fun t => (t.pos, t.kind)) =
    [(0, .tag), (7, .other), (8, .attr), (19, .other), (20, .tag), (29, .other), (30, .tag), (38, .other),
     (39, .tag), (48, .other), (49, .attr), (57, .other), (58, .other), (61, .tag), (70, .other), (71, .attr),
     (79, .other), (80, .keyword), (85, .other), (86, .number), (87, .other), (88, .other)] := by decide +kernel

/-- a text without any newline is all `Error` tokens, still lossless -/
example : (lex opaqueSubs t!"#.x").map (·.kind) = [.error, .error, .error] := by decide +kernel

/-- the hypotheses of `C20_headers` are satisfiable: a four-section document
(content with a lone `#`, which is not a `#.` sequence) -/
def demo : List Sec :=
  [⟨.container, t!"#diffx:", some t!"version=1.0", []⟩, ⟨.container, t!"#.change:", none, []⟩,
   ⟨.metadata, t!"#..meta:", some t!"length=3", t!"{}#\n"⟩, ⟨.diff, t!"#...diff:", none, t!"#"⟩]

example : (∀ s ∈ demo, s.Benign) ∧ Document demo := by
  refine ⟨?_, rfl, by simp⟩
  simp only [demo, List.mem_cons, List.not_mem_nil, or_false, forall_eq_or_imp, forall_eq]
  refine ⟨⟨by decide +kernel, by decide, by simp, by simp⟩, ⟨by decide +kernel, by simp, by simp, by simp⟩,
    ⟨by decide +kernel, by decide, by simp, ?_⟩, ⟨by decide +kernel, by simp, by simp, ?_⟩⟩
  · exact fun _ => ⟨by simp, noHashDot_of_check _ (by decide)⟩
  · exact fun _ => ⟨by simp, noHashDot_of_check _ (by decide)⟩

end Diffx.C20
