import DiffxVerif.Properties.C05
/-!
# C06 — Parse then re-serialise: byte-identical on canonical files, idempotent on others

(The property text and the discussion are in Properties/C05.lean: the two
properties are about the same pair of functions, `Dom.fromBytes` and
`Dom.toBytes`.)  The theorems below are the ones C06 rests on:

* what is loaded from a header is kept verbatim (minus `length`) and is what the
  DOM writer hands to the streaming writer, so a canonical header is reproduced;
* re-serialising is the streaming writer run on the loaded tree's call sequence,
  hence canonical (C02) — and canonical output is a fixed point of parse∘write
  by the section round trip (C01): `C06_parse_serialise` in Properties/C05Tree.lean
  (files of other producers: Properties/C06Foreign.lean);
* the known finding D14: a loaded option the writer has no parameter for makes
  re-serialisation fail.
-/
namespace Diffx.C06
open Diffx Diffx.Dom

/-- options read from a content header are kept verbatim, minus `length` -/
theorem C06_options_verbatim (o : Opts) (k : Bytes) (hk : k ≠ b!"length") :
    (contentOpts o).get k = (o.get k).map optToPy ∧ (contentOpts o).get b!"length" = none :=
  C05.C05_load_content_opts o k hk

/-- re-serialising a (loaded) tree is running the streaming writer on its call sequence -/
theorem C06_reserialise_is_run (env : Env) (cfg : Config) (wv : Text) (t : Tree) (b : Bytes)
    (h : toBytes env cfg wv t = .ok b) :
    ∃ enc ver calls, toCalls cfg.defaultIndent t wv = .ok (enc, ver, calls) ∧
      (Writer.run env cfg enc ver calls).1.out = b ∧
      ∀ r ∈ (Writer.run env cfg enc ver calls).2, r = .ok :=
  C05.C05_canonical env cfg wv t b h

/-- a preamble loaded from a header without `indent` is recorded as not indented
(`indent = None`), so that it is written back without indentation -/
theorem C06_preamble_indent_recorded (s : LoadSt) (r : Reader.Record) (t : Text) (s' : LoadSt)
    (hn : r.sec.name = .preamble) (hc : r.content = .text t) (hcur : s.cur = .main)
    (hi : (contentOpts r.opts).get b!"indent" = none)
    (h : loadRecord s r = .ok s') :
    s'.tree.preamble.opts = contentOpts r.opts ++ [(b!"indent", .none)] ∧ s'.tree.preamble.content = .str t := by
  rw [loadRecord_text hn hc, place, hcur] at h
  cases h
  simp [DomRT.setdefaultIndent, hi]

/-- **Known finding D14** -/
theorem C06_unknown_option_witness :
    ∃ t : Tree, (∃ c ∈ [t.metaSec], c.opts.get b!"custom" = some (.str (tx b!"v"))) ∧
      ∀ env cfg wv, toBytes env cfg wv t = .error .typeError :=
  C05.C06_unknown_option_witness

end Diffx.C06
