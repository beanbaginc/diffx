import DiffxVerif.Lemmas.Except
import DiffxVerif.Lemmas.Faithful
import DiffxVerif.Lemmas.CodecProofs
import DiffxVerif.Properties.C01Run
/-!
# C01 (content equality) — what is read back is what was written

> … content equal to what was written: preamble text and diff bytes unchanged except that a
> missing final line ending (of the declared or first-line-detected kind) is appended,
> metadata equal as a JSON value … for every combination of section encodings, indentation
> and line endings.

`Properties/C01.lean` / `C01Run.lean` prove the round trip with the record content expressed
through the environment (`laws.decoded` = the decoding of the prepared bytes).  This file closes
the gap to *the text that was written*, in two stages.

Any environment: `CodecFaithful env cfg e` (Lemmas/Faithful.lean) is a bundle of three laws about
the codec named `e`, for all texts, mentioning neither writer nor reader.  Under it the text read
back is `normText t (textDos le t)` — the text written, with the line ending of the declared (or
first-line-detected) kind appended when missing (`C01_text_equal`; `C01_run_content_equal` for a
whole call sequence, where `writtenContent` is computed from the call's arguments and, for a diff, the newline
of the laws; `Codecs.contentOfCall` of `Lemmas/ConcreteRun.lean` is the function of the arguments alone).

CPython's codecs, in Lean: `Model/Codecs.lean` defines ascii, latin-1, utf-8, utf-16-le, utf-16-be,
utf-16 (BOM), utf-32-le, utf-32-be, utf-32 (BOM), utf-8-sig (signature) and cp1252 as executable
functions; `C01_codec_faithful` and `C01_codec_newlines` prove the laws for each of them under each
spelling, with the BOM table of the repository, so that `C01_text_roundtrip_concrete` is the round
trip without any hypothesis on the environment.

**A law that is false of CPython.**  `encode (t ++ u) = encode t ++ strip_bom (encode u)` does
not hold for all `u`: `strip_bom` removes a leading `EF BB BF` from UTF-8 data (`FF FE` from
`utf-16-le` data, `FE FF` from `utf-16-be` data) even when the encoder produced it for a
genuine U+FEFF at the start of `u`; likewise `FF FE 00 00` from `utf-32-le` and `00 00 FE FF`
from `utf-32-be` data.  `CodecFaithful.enc_append` therefore carries the side
condition `u.head? ≠ some 0xFEFF` (the newline texts satisfy it);
`C01_enc_append_needs_side_condition` is the counterexample, evaluated.  The codecs whose
encoder always emits a mark (`utf-16`, `utf-32`, `utf-8-sig`) are immune: what `strip_bom` removes
is the encoder's mark, one only.
-/
namespace Diffx.C01
open Diffx Diffx.RunRT

/-- **The text read back is the text written**, its final line ending (of the declared or
first-line-detected kind) appended when missing. -/
theorem C01_text_equal (env : Env) (cfg : Config) (wst : Writer.St) (t : Text) (le : Option Text)
    (enc : Option Name) (leOut : Text) (laws : TextLaws env cfg wst t le enc leOut)
    (F : CodecFaithful env cfg (Text.ofAscii laws.encName)) :
    laws.decoded = normText t (textDos le t) :=
  text_decoded_eq laws F

/-- the kind of the laws (and of the `line_endings` option written) is the declared kind, or the
one detected on the first line of the text -/
theorem C01_text_kind (env : Env) (cfg : Config) (wst : Writer.St) (t : Text) (le : Option Text)
    (enc : Option Name) (leOut : Text) (laws : TextLaws env cfg wst t le enc leOut) :
    laws.dos = textDos le t ∧ leOut = leKind (textDos le t) :=
  ⟨laws.dos_eq, by rw [← laws.dos_eq]; exact laws.hle⟩

theorem C01_textDos_spec (t : Text) :
    textDos (some (Text.ofAscii b!"dos")) t = true ∧ textDos (some (Text.ofAscii b!"unix")) t = false ∧
    textDos none t = (Writer.guessText t).1 := ⟨rfl, rfl, rfl⟩

/-- **Content round trip with content equality (text sections).** `C01_content_text` with the
returned text identified. -/
theorem C01_content_text_equal (env : Env) (cfg : Config) (wst : Writer.St) (t : Text) (indent : Option Int)
    (le : Option Text) (enc : Option Name) (data : Bytes) (leOut : Text)
    (hp : Writer.prepareContent env cfg wst (.str t) indent le enc true = .ok (data, leOut))
    (hi : ∀ i, indent = some i → 0 ≤ i)
    (hlen : data.length ≤ Reader.maxRead)
    (laws : TextLaws env cfg wst t le enc leOut)
    (F : CodecFaithful env cfg (Text.ofAscii laws.encName))
    (rest : Bytes) (ln : Nat) (f : Option Bool) :
    Reader.readContent env cfg ⟨data ++ rest, ln, f⟩ data.length
        (some (.str laws.encName)) (indent.map OptVal.int) (some (.str leOut.toAscii)) false =
      .ok (.text (normText t (textDos le t)), ⟨rest, ln + laws.lines, f⟩) := by
  rw [← C01_text_equal env cfg wst t le enc leOut laws F]
  exact C01_content_text env cfg wst t indent le enc data leOut hp hi hlen laws rest ln f

/-- **Diff bytes come back unchanged**, the section's newline appended when missing (the
disjunction of `C01_content_diff` decided by `endsWith`). -/
theorem C01_diff_equal (env : Env) (cfg : Config) (wst : Writer.St) (b : Bytes)
    (le : Option Text) (enc : Option Name) (data : Bytes) (leOut : Text)
    (hp : Writer.prepareContent env cfg wst (.bytes b) none le enc false = .ok (data, leOut))
    (laws : DiffLaws env cfg wst b le enc leOut) :
    data = normBytes b laws.nl :=
  diff_prepared_eq hp laws

theorem C01_record_content_equal (env : Env) (cfg : Config) (st : Writer.St) (line : Nat) (c : Writer.Call)
    (L : CallLaws env cfg st c) (F : CallFaithful env cfg st c L) :
    (expectedOne env cfg st line c L).1.content = writtenContent env cfg st c L :=
  expected_content_eq line F

theorem C01_writtenContent_spec (env : Env) (cfg : Config) (st : Writer.St) :
    (∀ t enc indent le mime (L : CallLaws env cfg st (.preamble (.str t) enc indent le mime)),
      writtenContent env cfg st _ L = .text (normText t (textDos le t))) ∧
    (∀ j enc fmt (L : CallLaws env cfg st (.metadata (.dict j) enc fmt)),
      writtenContent env cfg st _ L = .metadata j) ∧
    (∀ b dtype enc le (L : DiffCallLaws env cfg st b enc le),
      writtenContent env cfg st (.diff (.bytes b) dtype enc le) L = .diff (normBytes b L.dl.nl)) :=
  ⟨fun _ _ _ _ _ _ => rfl, fun _ _ _ _ => rfl, fun _ _ _ _ _ => rfl⟩

/-- the newline of a diff section: the BOM-free encoding of LF / CRLF under `encoding or 'ascii'`,
of the declared kind when `line_endings` was given -/
theorem C01_diff_newline (env : Env) (cfg : Config) (st : Writer.St) (b : Bytes) (enc : Option Name)
    (le : Option Text) (L : DiffCallLaws env cfg st b enc le) :
    ∃ raw, env.encode (enc.getD (Text.ofAscii b!"ascii")) (nlText L.dl.dos) = .ok raw ∧
      stripBom env cfg raw (some (enc.getD (Text.ofAscii b!"ascii"))) = .ok L.dl.nl ∧
      L.leOut = leKind L.dl.dos ∧ (∀ l, le = some l → l = L.leOut) :=
  ⟨L.dl.rawR, L.dl.hencR, L.dl.hbomR, L.dl.hle, by
    have := L.dl.hw
    unfold PreparedWith at this
    obtain ⟨_, _, h, _⟩ := this
    exact h⟩

/-- **Whole-sequence content equality.**  For every accepted program whose laws hold, whose
preamble / metadata encodings are faithful codecs and whose metadata survives `json`
(`ProgramFaithfulFrom`): the reader yields, in order, the main container and then for every call
the content that was written — the text with its final line ending appended when missing, the
metadata value, the diff bytes with their newline appended when missing — and ends normally. -/
theorem C01_run_content_equal (env : Env) (cfg : Config) (chunk : Nat) (hc : 0 < chunk)
    (enc : Name) (calls : List Writer.Call)
    (hok : ∀ r ∈ (Writer.run env cfg (some enc) (Text.ofAscii b!"1.0") calls).2, r = .ok)
    (laws : ProgramLaws env cfg enc calls)
    (F : ProgramFaithfulFrom env cfg (Writer.init (some enc) (Text.ofAscii b!"1.0")).1 calls laws.calls) :
    (Reader.readAll env cfg chunk (Writer.run env cfg (some enc) (Text.ofAscii b!"1.0") calls).1.out).1.map
        (·.content) =
      .container :: writtenFrom env cfg (Writer.init (some enc) (Text.ofAscii b!"1.0")).1 calls laws.calls ∧
    (Reader.readAll env cfg chunk (Writer.run env cfg (some enc) (Text.ofAscii b!"1.0") calls).1.out).2 = .done := by
  rw [C01_run env cfg chunk hc enc calls hok laws]
  exact ⟨expectedRecords_content env cfg enc calls laws F, rfl⟩

section Concrete
variable (dumps : Json → EnvR Text) (loadsText : Text → EnvR Json) (loadsBytes : Bytes → EnvR Json)

/-- the BOM table, default indent and default encoding of `Codecs.cfg` are the ones extracted from
the repository.  The read-ahead block size is deliberately not part of the tie: the property
(C17) says results do not depend on it, the whole-run theorems take it as a separate argument,
and `C17_tie_chunk` only asks that the repository's value is positive. -/
theorem C01_codecs_cfg : Codecs.cfg.boms = Generated.config.boms ∧
    Codecs.cfg.defaultIndent = Generated.config.defaultIndent ∧
    Codecs.cfg.defaultEncoding = Generated.config.defaultEncoding ∧
    Codecs.cfg.strictLength = Generated.config.strictLength := ⟨Codecs.cfg_boms_eq, rfl, rfl, rfl⟩

/-- **Decoding undoes encoding** for each of the codecs (statement about the codec functions
alone). -/
theorem C01_codec_decode_encode (c : Codecs.Codec) (t : Text) (b : Bytes) (h : c.encode t = some b) :
    c.decode b = some t := by
  obtain ⟨a, ha, rfl⟩ := (Codecs.encode_some c t b).mp h
  rw [c.decode_bom, Codecs.decChars_encChars c.stepOk t a ha]

/-- **Every codec of `Codecs.env` is faithful**, under every spelling. -/
theorem C01_codec_faithful (e : Name) (c : Codecs.Codec) (he : Codecs.lookup e = some c) :
    CodecFaithful (Codecs.env dumps loadsText loadsBytes) Codecs.cfg e :=
  Codecs.faithful dumps loadsText loadsBytes e c he

/-- **… and has proper newlines**: LF / CRLF encode; BOM-free they are non-empty, unbordered,
hold no space byte, decode to the newline, and end encoded data only when the text ends with
the newline. -/
theorem C01_codec_newlines (e : Name) (c : Codecs.Codec) (he : Codecs.lookup e = some c) :
    CodecNewlines (Codecs.env dumps loadsText loadsBytes) Codecs.cfg e :=
  Codecs.newlines dumps loadsText loadsBytes e c he

/-- the spellings: every one of them names a codec, is a well-formed option value, and
`codecs.lookup(…).name` is the codec's canonical name -/
theorem C01_codec_names :
    Codecs.aliases.map (·.1) =
      [t!"ascii", t!"latin1", t!"latin-1", t!"iso-8859-1", t!"iso8859-1", t!"utf-8", t!"utf8", t!"UTF-8",
       t!"utf-16", t!"utf-16-le", t!"utf-16-be", t!"utf-32", t!"utf32", t!"UTF-32", t!"utf-32-le", t!"utf-32-be",
       t!"utf-8-sig", t!"UTF-8-SIG", t!"cp1252", t!"windows-1252", t!"UTF-16", t!"utf_16", t!"utf16", t!"latin_1",
       t!"us-ascii"] ∧
    (∀ p ∈ Codecs.aliases, Codecs.lookup p.1 = some p.2 ∧ NameOk p.1) ∧
    (∀ c ∈ Codecs.Codec.all, Codecs.lookup c.name = some c) := by
  have h1 : ∀ p ∈ Codecs.aliases, Codecs.lookup p.1 = some p.2 := by decide +kernel
  exact ⟨by decide +kernel, fun p hp => ⟨h1 p hp, Codecs.lookup_nameOk p.1 p.2 (h1 p hp)⟩, by decide +kernel⟩

/-- **`TextLaws` for the concrete codecs**, from acceptance alone: whenever `_prepare_content`
accepted the text under an effective encoding that `Codecs.env` knows, the text laws hold (data
computed, no hypothesis on the environment left). -/
def C01_text_laws_concrete (e : Name) (c : Codecs.Codec) (he : Codecs.lookup e = some c)
    (wst : Writer.St) (t : Text) (le : Option Text) (enc : Option Name) (leOut : Text)
    (heff : (if Writer.truthy enc then enc else wst.curEncoding) = some e)
    (plain : Bytes)
    (hplain : Writer.prepareContent (Codecs.env dumps loadsText loadsBytes) Codecs.cfg wst (.str t) none le enc
      true = .ok (plain, leOut)) :
    TextLaws (Codecs.env dumps loadsText loadsBytes) Codecs.cfg wst t le enc leOut :=
  TextLaws.ofFaithful _ _ wst t le enc leOut e.toAscii
    (by rw [← (Codecs.lookup_nameOk e c he).ascii]; exact heff)
    (by rw [← (Codecs.lookup_nameOk e c he).ascii]; exact Codecs.faithful dumps loadsText loadsBytes e c he)
    (by rw [← (Codecs.lookup_nameOk e c he).ascii]; exact Codecs.newlines dumps loadsText loadsBytes e c he)
    plain hplain

theorem C01_text_laws_concrete_decoded (e : Name) (c : Codecs.Codec) (he : Codecs.lookup e = some c)
    (wst : Writer.St) (t : Text) (le : Option Text) (enc : Option Name) (leOut : Text) heff plain hplain :
    (C01_text_laws_concrete dumps loadsText loadsBytes e c he wst t le enc leOut heff plain hplain).decoded =
      normText t (textDos le t) := rfl

/-- **The concrete round trip, no hypothesis on the environment.**  For every codec of `Codecs.env`
(spelling `e`), every writer state whose effective encoding is `e`, every non-empty encodable
text `t`, every `line_endings` argument (`None`, `'unix'`, `'dos'`) and every non-negative
indentation: `_prepare_content` succeeds, and `_read_content` on the prepared bytes (followed by
anything) returns the text written with its final line ending appended when missing, consuming
exactly the section. -/
theorem C01_text_roundtrip_concrete (e : Name) (c : Codecs.Codec) (he : Codecs.lookup e = some c)
    (wst : Writer.St) (enc : Option Name)
    (heff : (if Writer.truthy enc then enc else wst.curEncoding) = some e)
    (t : Text) (ht : t ≠ []) (d : Bytes) (hd : c.encode t = some d)
    (le : Option Text) (hle : ∀ l, le = some l → ∃ dos, l = leKind dos)
    (indent : Option Int) (hi : ∀ i, indent = some i → 0 ≤ i) :
    ∃ data, Writer.prepareContent (Codecs.env dumps loadsText loadsBytes) Codecs.cfg wst (.str t) indent le enc
        true = .ok (data, leKind (textDos le t)) ∧
      (data.length ≤ Reader.maxRead → ∀ rest ln f,
        Reader.readContent (Codecs.env dumps loadsText loadsBytes) Codecs.cfg ⟨data ++ rest, ln, f⟩ data.length
            (some (.str e.toAscii)) (indent.map OptVal.int) (some (.str (leKind (textDos le t)).toAscii)) false =
          .ok (.text (normText t (textDos le t)),
            ⟨rest, ln + (splitLines (normBytes d (c.nl (textDos le t))) (c.nl (textDos le t)) true).length, f⟩)) := by
  obtain ⟨hraw, hnl, hne, -⟩ := (Codecs.newlines dumps loadsText loadsBytes e c he).facts (textDos le t)
  have hd' : (Codecs.env dumps loadsText loadsBytes).encode e t = .ok d := by
    rw [Codecs.env_encode he, hd]; rfl
  have hprep := prepareContent_str_eq ht hle heff hd' hraw hnl
  have hplain := hprep none
  obtain ⟨data, hfin⟩ := prepFinish_total hne indent d
  have hdata := hprep indent
  rw [hfin] at hdata
  refine ⟨data, hdata, fun hlen rest ln f => ?_⟩
  have key := C01_content_text _ Codecs.cfg wst t indent le enc data _ hdata hi hlen
    (C01_text_laws_concrete dumps loadsText loadsBytes e c he wst t le enc _ heff _ hplain) rest ln f
  -- the newline of these laws is the codec's
  have hl : (C01_text_laws_concrete dumps loadsText loadsBytes e c he wst t le enc _ heff _ hplain).lines =
      (splitLines (normBytes d (c.nl (textDos le t))) (c.nl (textDos le t)) true).length := by
    show (splitLines (normBytes d (nlBytes _ Codecs.cfg e (textDos le t)))
      (nlBytes _ Codecs.cfg (Text.ofAscii e.toAscii) (textDos le t)) true).length = _
    rw [← (Codecs.lookup_nameOk e c he).ascii, Codecs.nlBytes_eq he]
  rw [hl] at key
  exact key

end Concrete

/-- a concrete environment: the codecs, and `json` functions that know one dict -/
def jk : Json := .obj [(t!"k", .int 1)]
def cenv : Env := Codecs.env (fun _ => .ok t!"{\"k\": 1}") (fun _ => .ok jk) (fun _ => .ok jk)

/-- `'a'.encode('utf-8') + strip_bom('﻿'.encode('utf-8'), 'utf-8') = b'a'`, but
`'a﻿'.encode('utf-8') = b'a\xef\xbb\xbf'`: the unrestricted concatenation law fails. -/
theorem C01_enc_append_needs_side_condition :
    ¬ (∀ t u bt bu su, cenv.encode t!"utf-8" t = .ok bt → cenv.encode t!"utf-8" u = .ok bu →
        stripBom cenv Codecs.cfg bu (some t!"utf-8") = .ok su → cenv.encode t!"utf-8" (t ++ u) = .ok (bt ++ su)) := by
  intro h
  have h1 := h [97] [0xFEFF] [97] [0xEF, 0xBB, 0xBF] [] rfl rfl rfl
  have h2 : cenv.encode t!"utf-8" ([97] ++ [0xFEFF]) = .ok [97, 0xEF, 0xBB, 0xBF] := rfl
  exact absurd (EnvR.ok.inj (h2.symm.trans h1)) (by decide)

/-- the same for `utf-16-le` (`FF FE`) and `utf-16-be` (`FE FF`); `utf-16` itself is immune (its
encoder always emits a BOM, which is what gets stripped) -/
example : cenv.encode t!"utf-16-le" [0xFEFF] = .ok [0xFF, 0xFE] ∧
    stripBom cenv Codecs.cfg [0xFF, 0xFE] (some t!"utf-16-le") = .ok [] ∧
    cenv.encode t!"utf-16-be" [0xFEFF] = .ok [0xFE, 0xFF] ∧
    stripBom cenv Codecs.cfg [0xFE, 0xFF] (some t!"utf-16-be") = .ok [] ∧
    cenv.encode t!"utf-16" [0xFEFF] = .ok [0xFF, 0xFE, 0xFF, 0xFE] ∧
    stripBom cenv Codecs.cfg [0xFF, 0xFE, 0xFF, 0xFE] (some t!"utf-16") = .ok [0xFF, 0xFE] :=
  ⟨rfl, rfl, rfl, rfl, rfl, rfl⟩

/-- the same for `utf-32-le` (`FF FE 00 00`) and `utf-32-be` (`00 00 FE FF`); `utf-32` and `utf-8-sig`
are immune like `utf-16`: the encoder's mark is stripped, the encoded U+FEFF stays -/
example : cenv.encode t!"utf-32-le" [0xFEFF] = .ok [0xFF, 0xFE, 0, 0] ∧
    stripBom cenv Codecs.cfg [0xFF, 0xFE, 0, 0] (some t!"utf-32-le") = .ok [] ∧
    cenv.encode t!"utf-32-be" [0xFEFF] = .ok [0, 0, 0xFE, 0xFF] ∧
    stripBom cenv Codecs.cfg [0, 0, 0xFE, 0xFF] (some t!"utf-32-be") = .ok [] ∧
    cenv.encode t!"utf-32" [0xFEFF] = .ok [0xFF, 0xFE, 0, 0, 0xFF, 0xFE, 0, 0] ∧
    stripBom cenv Codecs.cfg [0xFF, 0xFE, 0, 0, 0xFF, 0xFE, 0, 0] (some t!"utf-32") = .ok [0xFF, 0xFE, 0, 0] ∧
    cenv.encode t!"utf-8-sig" [0xFEFF] = .ok [0xEF, 0xBB, 0xBF, 0xEF, 0xBB, 0xBF] ∧
    stripBom cenv Codecs.cfg [0xEF, 0xBB, 0xBF, 0xEF, 0xBB, 0xBF] (some t!"utf-8-sig") = .ok [0xEF, 0xBB, 0xBF] ∧
    stripBom cenv Codecs.cfg [0xEF, 0xBB, 0xBF, 0x0A] (some t!"UTF-8-SIG") = .ok [0x0A] ∧
    stripBom cenv Codecs.cfg [0xFF, 0xFE, 0, 0, 0x0A, 0, 0, 0] (some t!"utf32") = .ok [0x0A, 0, 0, 0] ∧
    stripBom cenv Codecs.cfg [0xEF, 0xBB, 0xBF] (some t!"cp1252") = .ok [0xEF, 0xBB, 0xBF] :=
  ⟨rfl, rfl, rfl, rfl, rfl, rfl, rfl, rfl, rfl, rfl, rfl⟩

/-! ## Tests: the codecs on concrete texts (CPython's answers) -/

open Codecs in
/-- a text with Latin-1, BMP and astral code points and mixed line endings -/
def sample : Text := t!"aé€😀\r\nb\nc\r"

open Codecs in
example : Codec.utf8.encode sample =
    some [0x61, 0xC3, 0xA9, 0xE2, 0x82, 0xAC, 0xF0, 0x9F, 0x98, 0x80, 0x0D, 0x0A, 0x62, 0x0A, 0x63, 0x0D] := by decide +kernel
open Codecs in
example : Codec.utf8.decode [0x61, 0xC3, 0xA9, 0xE2, 0x82, 0xAC, 0xF0, 0x9F, 0x98, 0x80, 0x0D, 0x0A, 0x62, 0x0A, 0x63, 0x0D] =
    some sample := by decide +kernel
open Codecs in
example : Codec.utf16le.encode sample =
    some [0x61, 0, 0xE9, 0, 0xAC, 0x20, 0x3D, 0xD8, 0x00, 0xDE, 0x0D, 0, 0x0A, 0, 0x62, 0, 0x0A, 0, 0x63, 0, 0x0D, 0] := by
  decide +kernel
open Codecs in
example : Codec.utf16be.encode sample =
    some [0, 0x61, 0, 0xE9, 0x20, 0xAC, 0xD8, 0x3D, 0xDE, 0x00, 0, 0x0D, 0, 0x0A, 0, 0x62, 0, 0x0A, 0, 0x63, 0, 0x0D] := by
  decide +kernel
open Codecs in
example : Codec.utf16.encode sample =
    some [0xFF, 0xFE, 0x61, 0, 0xE9, 0, 0xAC, 0x20, 0x3D, 0xD8, 0x00, 0xDE, 0x0D, 0, 0x0A, 0, 0x62, 0, 0x0A, 0, 0x63, 0,
      0x0D, 0] := by decide +kernel
open Codecs in
example : (Codec.utf16.encode sample).bind Codec.utf16.decode = some sample ∧
    (Codec.utf16le.encode sample).bind Codec.utf16le.decode = some sample ∧
    (Codec.utf16be.encode sample).bind Codec.utf16be.decode = some sample ∧
    (Codec.utf16be.encode sample).bind Codec.utf16.decode ≠ some sample := by decide +kernel
open Codecs in
/-- Latin-1 and ASCII: range checks -/
example : Codec.latin1.encode t!"é\r\nÿ" = some [0xE9, 0x0D, 0x0A, 0xFF] ∧ Codec.latin1.encode t!"€" = none ∧
    Codec.latin1.decode [0xE9, 0x80, 0xFF] = some [0xE9, 0x80, 0xFF] ∧
    Codec.ascii.encode t!"a\r\n" = some [0x61, 0x0D, 0x0A] ∧ Codec.ascii.encode t!"é" = none ∧
    Codec.ascii.decode [0x61, 0x80] = none := by decide +kernel
open Codecs in
/-- UTF-8 strictness: surrogates are not encodable; overlong forms, encoded surrogates, values above
U+10FFFF, stray continuation bytes and truncated sequences are not decodable; a BOM is data -/
example : Codec.utf8.encode [0xD800] = none ∧ Codec.utf8.encode [0xDFFF] = none ∧
    Codec.utf8.encode [0xD7FF, 0xE000, 0x10FFFF] = some [0xED, 0x9F, 0xBF, 0xEE, 0x80, 0x80, 0xF4, 0x8F, 0xBF, 0xBF] ∧
    Codec.utf8.decode [0xC0, 0x80] = none ∧ Codec.utf8.decode [0xC1, 0xBF] = none ∧
    Codec.utf8.decode [0xE0, 0x9F, 0xBF] = none ∧ Codec.utf8.decode [0xF0, 0x8F, 0xBF, 0xBF] = none ∧
    Codec.utf8.decode [0xED, 0xA0, 0x80] = none ∧ Codec.utf8.decode [0xF4, 0x90, 0x80, 0x80] = none ∧
    Codec.utf8.decode [0xF5, 0x80, 0x80, 0x80] = none ∧ Codec.utf8.decode [0x80] = none ∧
    Codec.utf8.decode [0xE2, 0x82] = none ∧ Codec.utf8.decode [0xE2, 0x82, 0x41] = none ∧
    Codec.utf8.decode [0xEF, 0xBB, 0xBF, 0x61] = some [0xFEFF, 0x61] := by decide +kernel
open Codecs in
/-- UTF-16 corners: `''.encode('utf-16') == b'\xff\xfe'`, `b'\xff\xfe'.decode('utf-16') == ''`, a
big-endian BOM switches the byte order, only one BOM is consumed, `-le` / `-be` keep U+FEFF, lone
surrogates and odd lengths are errors -/
example : Codec.utf16.encode [] = some [0xFF, 0xFE] ∧ Codec.utf16.decode [0xFF, 0xFE] = some [] ∧
    Codec.utf16.decode [] = some [] ∧ Codec.utf16.decode [0xFE, 0xFF, 0x00, 0x61] = some [0x61] ∧
    Codec.utf16.decode [0x61, 0x00] = some [0x61] ∧
    Codec.utf16.encode [0xFEFF, 0x61] = some [0xFF, 0xFE, 0xFF, 0xFE, 0x61, 0x00] ∧
    Codec.utf16.decode [0xFF, 0xFE, 0xFF, 0xFE, 0x61, 0x00] = some [0xFEFF, 0x61] ∧
    Codec.utf16le.decode [0xFF, 0xFE, 0x61, 0x00] = some [0xFEFF, 0x61] ∧
    Codec.utf16be.decode [0xFE, 0xFF, 0x00, 0x61] = some [0xFEFF, 0x61] ∧
    Codec.utf16le.encode [0xD800] = none ∧ Codec.utf16le.encode [0xD83D, 0xDE00] = none ∧
    Codec.utf16le.decode [0x3D, 0xD8] = none ∧ Codec.utf16le.decode [0x00, 0xDE] = none ∧
    Codec.utf16le.decode [0x3D, 0xD8, 0x61, 0x00] = none ∧ Codec.utf16le.decode [0x61] = none ∧
    Codec.utf16.decode [0xFF] = none := by decide +kernel
open Codecs in
example : Codec.utf32.encode sample =
    some [0xFF, 0xFE, 0, 0, 0x61, 0, 0, 0, 0xE9, 0, 0, 0, 0xAC, 0x20, 0, 0, 0x00, 0xF6, 0x01, 0, 0x0D, 0, 0, 0,
      0x0A, 0, 0, 0, 0x62, 0, 0, 0, 0x0A, 0, 0, 0, 0x63, 0, 0, 0, 0x0D, 0, 0, 0] := by decide +kernel
open Codecs in
example : Codec.utf32le.encode sample =
    some [0x61, 0, 0, 0, 0xE9, 0, 0, 0, 0xAC, 0x20, 0, 0, 0x00, 0xF6, 0x01, 0, 0x0D, 0, 0, 0,
      0x0A, 0, 0, 0, 0x62, 0, 0, 0, 0x0A, 0, 0, 0, 0x63, 0, 0, 0, 0x0D, 0, 0, 0] := by decide +kernel
open Codecs in
example : Codec.utf32be.encode sample =
    some [0, 0, 0, 0x61, 0, 0, 0, 0xE9, 0, 0, 0x20, 0xAC, 0, 0x01, 0xF6, 0x00, 0, 0, 0, 0x0D,
      0, 0, 0, 0x0A, 0, 0, 0, 0x62, 0, 0, 0, 0x0A, 0, 0, 0, 0x63, 0, 0, 0, 0x0D] := by decide +kernel
open Codecs in
example : Codec.utf8sig.encode sample =
    some [0xEF, 0xBB, 0xBF, 0x61, 0xC3, 0xA9, 0xE2, 0x82, 0xAC, 0xF0, 0x9F, 0x98, 0x80, 0x0D, 0x0A, 0x62, 0x0A, 0x63,
      0x0D] := by decide +kernel
open Codecs in
example : (Codec.utf32.encode sample).bind Codec.utf32.decode = some sample ∧
    (Codec.utf32le.encode sample).bind Codec.utf32le.decode = some sample ∧
    (Codec.utf32be.encode sample).bind Codec.utf32be.decode = some sample ∧
    (Codec.utf32be.encode sample).bind Codec.utf32.decode = none ∧
    (Codec.utf8sig.encode sample).bind Codec.utf8sig.decode = some sample ∧
    (Codec.utf8sig.encode sample).bind Codec.utf8.decode = some (0xFEFF :: sample) ∧
    (Codec.utf8.encode sample).bind Codec.utf8sig.decode = some sample := by decide +kernel
open Codecs in
/-- UTF-32 corners: `''.encode('utf-32') == b'\xff\xfe\0\0'`, a big-endian BOM switches the byte
order, only one BOM is consumed, `-le` / `-be` keep U+FEFF, surrogates and values above U+10FFFF are
errors both ways, as is a length that is not a multiple of four; `FE FF 00 00` is U+FFFE, no BOM -/
example : Codec.utf32.encode [] = some [0xFF, 0xFE, 0x00, 0x00] ∧
    Codec.utf32.decode [0xFF, 0xFE, 0x00, 0x00] = some [] ∧
    Codec.utf32.decode [] = some [] ∧
    Codec.utf32.decode [0x00, 0x00, 0xFE, 0xFF, 0x00, 0x00, 0x00, 0x61] = some [0x61] ∧
    Codec.utf32.decode [0x61, 0x00, 0x00, 0x00] = some [0x61] ∧
    Codec.utf32.encode [0xFEFF, 0x61] = some [0xFF, 0xFE, 0x00, 0x00, 0xFF, 0xFE, 0x00, 0x00, 0x61, 0x00, 0x00, 0x00] ∧
    Codec.utf32.decode [0xFF, 0xFE, 0x00, 0x00, 0xFF, 0xFE, 0x00, 0x00, 0x61, 0x00, 0x00, 0x00] = some [0xFEFF, 0x61] ∧
    Codec.utf32.decode [0xFF, 0xFE, 0x00, 0x00, 0x00, 0x00, 0xFE, 0xFF] = none ∧
    Codec.utf32le.decode [0xFF, 0xFE, 0x00, 0x00, 0x61, 0x00, 0x00, 0x00] = some [0xFEFF, 0x61] ∧
    Codec.utf32be.decode [0x00, 0x00, 0xFE, 0xFF, 0x00, 0x00, 0x00, 0x61] = some [0xFEFF, 0x61] ∧
    Codec.utf32le.encode [0xD800] = none ∧
    Codec.utf32be.encode [0xDFFF] = none ∧
    Codec.utf32le.encode [0x110000] = none ∧
    Codec.utf32le.encode [0xD7FF, 0xE000, 0x10FFFF] =
      some [0xFF, 0xD7, 0x00, 0x00, 0x00, 0xE0, 0x00, 0x00, 0xFF, 0xFF, 0x10, 0x00] ∧
    Codec.utf32le.decode [0x00, 0xD8, 0x00, 0x00] = none ∧
    Codec.utf32le.decode [0xFF, 0xDF, 0x00, 0x00] = none ∧
    Codec.utf32le.decode [0x00, 0x00, 0x11, 0x00] = none ∧
    Codec.utf32le.decode [0xFF, 0xFF, 0x10, 0x00] = some [0x10FFFF] ∧
    Codec.utf32be.decode [0x00, 0x11, 0x00, 0x00] = none ∧
    Codec.utf32be.decode [0x01, 0x00, 0x00, 0x00] = none ∧
    Codec.utf32le.decode [0x61, 0x00, 0x00] = none ∧
    Codec.utf32le.decode [0x61, 0x00, 0x00, 0x00, 0x62] = none ∧
    Codec.utf32.decode [0xFF, 0xFE, 0x00] = none ∧
    Codec.utf32.decode [0xFF, 0xFE, 0x00, 0x00, 0x61, 0x00] = none ∧
    Codec.utf32.decode [0xFE, 0xFF, 0x00, 0x00] = some [0xFFFE] := by decide +kernel
open Codecs in
/-- UTF-8-SIG corners: `''.encode('utf-8-sig') == b'\xef\xbb\xbf'`; the decoder removes one leading
signature, if any (so plain UTF-8 decodes too); a U+FEFF written at the start survives; a signature
elsewhere is data; a truncated signature and ill-formed UTF-8 after it are errors -/
example : Codec.utf8sig.encode [] = some [0xEF, 0xBB, 0xBF] ∧
    Codec.utf8sig.decode [] = some [] ∧
    Codec.utf8sig.decode [0xEF, 0xBB, 0xBF] = some [] ∧
    Codec.utf8sig.decode [0x61] = some [0x61] ∧
    Codec.utf8sig.decode [0xEF, 0xBB, 0xBF, 0x61] = some [0x61] ∧
    Codec.utf8sig.encode [0xFEFF, 0x61] = some [0xEF, 0xBB, 0xBF, 0xEF, 0xBB, 0xBF, 0x61] ∧
    Codec.utf8sig.decode [0xEF, 0xBB, 0xBF, 0xEF, 0xBB, 0xBF, 0x61] = some [0xFEFF, 0x61] ∧
    Codec.utf8sig.decode [0x61, 0xEF, 0xBB, 0xBF] = some [0x61, 0xFEFF] ∧
    Codec.utf8sig.decode [0xEF, 0xBB] = none ∧
    Codec.utf8sig.decode [0xEF, 0xBB, 0xBF, 0xC0, 0x80] = none ∧
    Codec.utf8sig.decode [0xEF, 0xBB, 0xBF, 0xED, 0xA0, 0x80] = none ∧
    Codec.utf8sig.encode [0xD800] = none ∧
    Codec.utf8sig.encode [0xE9, 0x20AC, 0x1F600] =
      some [0xEF, 0xBB, 0xBF, 0xC3, 0xA9, 0xE2, 0x82, 0xAC, 0xF0, 0x9F, 0x98, 0x80] := by decide +kernel
open Codecs in
/-- cp1252: the rows `0x80–0x9F`, the five undefined bytes (both directions: U+0081 … are not
encodable either), Latin-1 above `0xA0`, nothing beyond the table -/
example : Codec.cp1252.encode t!"h€llo “x” ™ÿ\r\n" =
      some [0x68, 0x80, 0x6C, 0x6C, 0x6F, 0x20, 0x93, 0x78, 0x94, 0x20, 0x99, 0xFF, 0x0D, 0x0A] ∧
    Codec.cp1252.encode [0x81] = none ∧
    Codec.cp1252.encode [0x80] = none ∧
    Codec.cp1252.encode [0x9F] = none ∧
    Codec.cp1252.encode [0xA0, 0xFF] = some [0xA0, 0xFF] ∧
    Codec.cp1252.encode [0x100] = none ∧
    Codec.cp1252.encode [0x1F600] = none ∧
    Codec.cp1252.encode [0xFEFF] = none ∧
    Codec.cp1252.encode [0x178, 0x17E] = some [0x9F, 0x9E] ∧
    Codec.cp1252.decode [0x80, 0x82, 0x8C, 0x8E, 0x91, 0x9F, 0xA0, 0xE9, 0xFF, 0x0D, 0x0A] =
      some [0x20AC, 0x201A, 0x152, 0x17D, 0x2018, 0x178, 0xA0, 0xE9, 0xFF, 0xD, 0xA] ∧
    Codec.cp1252.decode [0x81] = none ∧
    Codec.cp1252.decode [0x8D] = none ∧
    Codec.cp1252.decode [0x8F] = none ∧
    Codec.cp1252.decode [0x90] = none ∧
    Codec.cp1252.decode [0x9D] = none ∧
    Codec.cp1252.decode [0x61, 0x9D] = none ∧
    Codec.cp1252.decode [0xEF, 0xBB, 0xBF] = some [0xEF, 0xBB, 0xBF] := by decide +kernel
open Codecs in
/-- cp1252, the whole block `0x80–0x9F` as CPython decodes it (`none`: `UnicodeDecodeError`), and
back -/
example : ((List.range 32).map fun i => Codec.cp1252.decode [(0x80 + i).toUInt8]) =
    [some [0x20AC], none, some [0x201A], some [0x0192], some [0x201E], some [0x2026], some [0x2020], some [0x2021],
     some [0x02C6], some [0x2030], some [0x0160], some [0x2039], some [0x0152], none, some [0x017D], none,
     none, some [0x2018], some [0x2019], some [0x201C], some [0x201D], some [0x2022], some [0x2013], some [0x2014],
     some [0x02DC], some [0x2122], some [0x0161], some [0x203A], some [0x0153], none, some [0x017E], some [0x0178]] ∧
    (∀ p ∈ cp1252Table, Codec.cp1252.encode [p.1] = some [p.2] ∧ Codec.cp1252.decode [p.2] = some [p.1]) := by
  decide +kernel
/-- names: aliases, canonical names, unknown names -/
example : cenv.canon t!"latin-1" = .ok t!"iso8859-1" ∧ cenv.canon t!"UTF-8" = .ok t!"utf-8" ∧
    cenv.canon t!"utf-16-le" = .ok t!"utf-16-le" ∧ cenv.canon t!"utf32" = .ok t!"utf-32" ∧
    cenv.canon t!"UTF-8-SIG" = .ok t!"utf-8-sig" ∧ cenv.canon t!"windows-1252" = .ok t!"cp1252" ∧
    cenv.canon t!"utf_16" = .ok t!"utf-16" ∧ cenv.canon t!"latin_1" = .ok t!"iso8859-1" ∧
    cenv.canon t!"us-ascii" = .ok t!"ascii" ∧
    (match cenv.canon t!"klingon" with | .err => true | _ => false) = true ∧
    (match cenv.encode t!"klingon" [] with | .err => true | _ => false) = true :=
  ⟨rfl, rfl, rfl, rfl, rfl, rfl, rfl, rfl, rfl, rfl, rfl⟩
/-- the BOM-free newlines -/
example : (Codecs.Codec.all.map fun c => (c.nl false, c.nl true)) =
    [([10], [13, 10]), ([10], [13, 10]), ([10], [13, 10]), ([10, 0], [13, 0, 10, 0]), ([10, 0], [13, 0, 10, 0]),
     ([0, 10], [0, 13, 0, 10]), ([10, 0, 0, 0], [13, 0, 0, 0, 10, 0, 0, 0]), ([10, 0, 0, 0], [13, 0, 0, 0, 10, 0, 0, 0]),
     ([0, 0, 0, 10], [0, 0, 0, 13, 0, 0, 0, 10]), ([10], [13, 10]), ([10], [13, 10])] := by decide +kernel

/-! ## Closed instances of `C01_text_roundtrip_concrete`, one per codec family -/

/-- a writer inside a section whose current encoding is `utf-16` (resp. `utf-8`) -/
def wst16 : Writer.St := ⟨[], [some t!"utf-8", some t!"utf-16"], none⟩
def wst8 : Writer.St := ⟨[], [some t!"utf-8"], none⟩

/-- non-ASCII and astral code points, a line that looks like a header, first line CRLF, a lone LF
inside, no final line ending -/
def txt : Text := t!"héllo 😀\r\n#.change:\nwörld"

/-- `utf-16` (BOM), inherited; `indent=2`; kind detected on the first line (dos): the CRLF is
appended, in UTF-16; the indentation is made of single space bytes -/
def data16 : Bytes :=
  [32, 32, 255, 254, 104, 0, 233, 0, 108, 0, 108, 0, 111, 0, 32, 0, 61, 216, 0, 222, 13, 0, 10, 0, 32, 32, 35,
   0, 46, 0, 99, 0, 104, 0, 97, 0, 110, 0, 103, 0, 101, 0, 58, 0, 10, 0, 119, 0, 246, 0, 114, 0, 108, 0, 100, 0, 13, 0,
   10, 0]

theorem prepared16 :
    Writer.prepareContent cenv Codecs.cfg wst16 (.str txt) (some 2) none none true = .ok (data16, t!"dos") :=
  Except.eq_ok_of_toOption (by decide +kernel)

theorem C01_text_roundtrip_utf16 :
    Reader.readContent cenv Codecs.cfg ⟨data16 ++ b!"#.change:\n", 5, some false⟩ 60
        (some (.str b!"utf-16")) (some (.int 2)) (some (.str b!"dos")) false =
      .ok (.text t!"héllo 😀\r\n#.change:\nwörld\r\n", ⟨b!"#.change:\n", 7, some false⟩) :=
  Except.of_exists_ok (C01_text_roundtrip_concrete _ _ _ t!"utf-16" .utf16 rfl wst16 none rfl txt (by decide) _ rfl none
      (by intro l h; cases h) (some 2) (by intro i h; cases h; decide))
    prepared16 (by decide) b!"#.change:\n" 5 (some false)

set_option maxRecDepth 16384 in
/-- … which is true by evaluation as well -/
example :
    Reader.readContent cenv Codecs.cfg ⟨data16 ++ b!"#.change:\n", 5, some false⟩ 60
        (some (.str b!"utf-16")) (some (.int 2)) (some (.str b!"dos")) false =
      .ok (.text t!"héllo 😀\r\n#.change:\nwörld\r\n", ⟨b!"#.change:\n", 7, some false⟩) := by rfl

/-- `utf-8`, inherited; `line_endings='unix'` declared: the CRLF inside is not a line end for the
appended kind, an LF is appended -/
def data8 : Bytes :=
  [32, 32, 104, 195, 169, 108, 108, 111, 32, 240, 159, 152, 128, 13, 10, 32, 32, 35, 46, 99, 104, 97, 110, 103,
   101, 58, 10, 32, 32, 119, 195, 182, 114, 108, 100, 10]

theorem prepared8 :
    Writer.prepareContent cenv Codecs.cfg wst8 (.str txt) (some 2) (some t!"unix") none true =
      .ok (data8, t!"unix") :=
  Except.eq_ok_of_toOption (by decide +kernel)

theorem C01_text_roundtrip_utf8 :
    Reader.readContent cenv Codecs.cfg ⟨data8 ++ b!"#.change:\n", 0, none⟩ 36
        (some (.str b!"utf-8")) (some (.int 2)) (some (.str b!"unix")) false =
      .ok (.text t!"héllo 😀\r\n#.change:\nwörld\n", ⟨b!"#.change:\n", 3, none⟩) :=
  Except.of_exists_ok (C01_text_roundtrip_concrete _ _ _ t!"utf-8" .utf8 rfl wst8 none rfl txt (by decide) _ rfl
      (some t!"unix") (by intro l h; cases h; exact ⟨false, rfl⟩) (some 2) (by intro i h; cases h; decide))
    prepared8 (by decide) b!"#.change:\n" 0 none

theorem preparedL1 :
    Writer.prepareContent cenv Codecs.cfg wst8 (.str t!"héllo\r\nwörld") none none (some t!"latin-1") true =
      .ok ([104, 233, 108, 108, 111, 13, 10, 119, 246, 114, 108, 100, 13, 10], t!"dos") :=
  Except.eq_ok_of_toOption (by decide +kernel)

/-- `latin-1` given as the section's own encoding (an alias of `iso8859-1`), no indentation, kind
detected (dos) -/
theorem C01_text_roundtrip_latin1 :
    Reader.readContent cenv Codecs.cfg
        ⟨[104, 233, 108, 108, 111, 13, 10, 119, 246, 114, 108, 100, 13, 10] ++ b!"#.change:\n", 0, none⟩ 14
        (some (.str b!"latin-1")) none (some (.str b!"dos")) false =
      .ok (.text t!"héllo\r\nwörld\r\n", ⟨b!"#.change:\n", 2, none⟩) :=
  Except.of_exists_ok (C01_text_roundtrip_concrete _ _ _ t!"latin-1" .latin1 rfl wst8 (some t!"latin-1") rfl
      t!"héllo\r\nwörld" (by decide) _ rfl none (by intro l h; cases h) none (by intro i h; cases h))
    preparedL1 (by decide) b!"#.change:\n" 0 none

/-- `utf-16-be` given, `line_endings='dos'`, `indent=1` -/
def data16be : Bytes :=
  [32, 0, 104, 0, 233, 0, 108, 0, 108, 0, 111, 0, 32, 216, 61, 222, 0, 0, 13, 0, 10, 32, 0, 35, 0, 46, 0, 99,
   0, 104, 0, 97, 0, 110, 0, 103, 0, 101, 0, 58, 0, 10, 0, 119, 0, 246, 0, 114, 0, 108, 0, 100, 0, 13, 0, 10]

theorem prepared16be :
    Writer.prepareContent cenv Codecs.cfg wst8 (.str txt) (some 1) (some t!"dos") (some t!"utf-16-be") true =
      .ok (data16be, t!"dos") :=
  Except.eq_ok_of_toOption (by decide +kernel)

theorem C01_text_roundtrip_utf16be :
    Reader.readContent cenv Codecs.cfg ⟨data16be ++ b!"#.change:\n", 0, none⟩ 56
        (some (.str b!"utf-16-be")) (some (.int 1)) (some (.str b!"dos")) false =
      .ok (.text t!"héllo 😀\r\n#.change:\nwörld\r\n", ⟨b!"#.change:\n", 2, none⟩) :=
  Except.of_exists_ok (C01_text_roundtrip_concrete _ _ _ t!"utf-16-be" .utf16be rfl wst8 (some t!"utf-16-be") rfl txt (by decide)
      _ rfl (some t!"dos") (by intro l h; cases h; exact ⟨true, rfl⟩) (some 1) (by intro i h; cases h; decide))
    prepared16be (by decide) b!"#.change:\n" 0 none

/-- `utf-32` (BOM), inherited; `indent=2`; kind detected on the first line (dos): the CRLF is appended,
in UTF-32 (eight bytes); the BOM is written once, after the indentation of the first line -/
def wst32 : Writer.St := ⟨[], [some t!"utf-8", some t!"utf-32"], none⟩
def data32 : Bytes :=
  [32, 32, 255, 254, 0, 0, 104, 0, 0, 0, 233, 0, 0, 0, 108, 0, 0, 0, 108, 0, 0, 0, 111, 0, 0, 0, 32, 0, 0, 0, 0, 246,
   1, 0, 13, 0, 0, 0, 10, 0, 0, 0, 32, 32, 35, 0, 0, 0, 46, 0, 0, 0, 99, 0, 0, 0, 104, 0, 0, 0, 97, 0, 0, 0, 110, 0,
   0, 0, 103, 0, 0, 0, 101, 0, 0, 0, 58, 0, 0, 0, 10, 0, 0, 0, 119, 0, 0, 0, 246, 0, 0, 0, 114, 0, 0, 0, 108, 0, 0,
   0, 100, 0, 0, 0, 13, 0, 0, 0, 10, 0, 0, 0]

theorem prepared32 :
    Writer.prepareContent cenv Codecs.cfg wst32 (.str txt) (some 2) none none true = .ok (data32, t!"dos") :=
  Except.eq_ok_of_toOption (by decide +kernel)

theorem C01_text_roundtrip_utf32 :
    Reader.readContent cenv Codecs.cfg ⟨data32 ++ b!"#.change:\n", 5, some false⟩ 112
        (some (.str b!"utf-32")) (some (.int 2)) (some (.str b!"dos")) false =
      .ok (.text t!"héllo 😀\r\n#.change:\nwörld\r\n", ⟨b!"#.change:\n", 7, some false⟩) :=
  Except.of_exists_ok (C01_text_roundtrip_concrete _ _ _ t!"utf-32" .utf32 rfl wst32 none rfl txt (by decide) _ rfl none
      (by intro l h; cases h) (some 2) (by intro i h; cases h; decide))
    prepared32 (by decide) b!"#.change:\n" 5 (some false)

/-- `utf-32-be` given, `line_endings='dos'`, no indentation; the text begins with U+FEFF, which is
data for `utf-32-be` (written as `00 00 FE FF`, read back) -/
def txtB : Text := 0xFEFF :: txt
def data32be : Bytes :=
  [0, 0, 254, 255, 0, 0, 0, 104, 0, 0, 0, 233, 0, 0, 0, 108, 0, 0, 0, 108, 0, 0, 0, 111, 0, 0, 0, 32, 0, 1, 246, 0,
   0, 0, 0, 13, 0, 0, 0, 10, 0, 0, 0, 35, 0, 0, 0, 46, 0, 0, 0, 99, 0, 0, 0, 104, 0, 0, 0, 97, 0, 0, 0, 110, 0, 0, 0,
   103, 0, 0, 0, 101, 0, 0, 0, 58, 0, 0, 0, 10, 0, 0, 0, 119, 0, 0, 0, 246, 0, 0, 0, 114, 0, 0, 0, 108, 0, 0, 0, 100,
   0, 0, 0, 13, 0, 0, 0, 10]

theorem prepared32be :
    Writer.prepareContent cenv Codecs.cfg wst8 (.str txtB) none (some t!"dos") (some t!"utf-32-be") true =
      .ok (data32be, t!"dos") :=
  Except.eq_ok_of_toOption (by decide +kernel)

theorem C01_text_roundtrip_utf32be :
    Reader.readContent cenv Codecs.cfg ⟨data32be ++ b!"#.change:\n", 0, none⟩ 108
        (some (.str b!"utf-32-be")) none (some (.str b!"dos")) false =
      .ok (.text (0xFEFF :: t!"héllo 😀\r\n#.change:\nwörld\r\n"), ⟨b!"#.change:\n", 2, none⟩) :=
  Except.of_exists_ok (C01_text_roundtrip_concrete _ _ _ t!"utf-32-be" .utf32be rfl wst8 (some t!"utf-32-be") rfl txtB (by decide)
      _ rfl (some t!"dos") (by intro l h; cases h; exact ⟨true, rfl⟩) none (by intro i h; cases h))
    prepared32be (by decide) b!"#.change:\n" 0 none

/-- `utf-8-sig` given, `line_endings='unix'`, `indent=1`; the text begins with U+FEFF: the encoder's
signature and the encoded U+FEFF are both written, the decoder removes one -/
def data8sig : Bytes :=
  [32, 239, 187, 191, 239, 187, 191, 104, 195, 169, 108, 108, 111, 32, 240, 159, 152, 128, 13, 10, 32, 35, 46, 99,
   104, 97, 110, 103, 101, 58, 10, 32, 119, 195, 182, 114, 108, 100, 10]

theorem prepared8sig :
    Writer.prepareContent cenv Codecs.cfg wst8 (.str txtB) (some 1) (some t!"unix") (some t!"utf-8-sig") true =
      .ok (data8sig, t!"unix") :=
  Except.eq_ok_of_toOption (by decide +kernel)

theorem C01_text_roundtrip_utf8sig :
    Reader.readContent cenv Codecs.cfg ⟨data8sig ++ b!"#.change:\n", 0, none⟩ 39
        (some (.str b!"utf-8-sig")) (some (.int 1)) (some (.str b!"unix")) false =
      .ok (.text (0xFEFF :: t!"héllo 😀\r\n#.change:\nwörld\n"), ⟨b!"#.change:\n", 3, none⟩) :=
  Except.of_exists_ok (C01_text_roundtrip_concrete _ _ _ t!"utf-8-sig" .utf8sig rfl wst8 (some t!"utf-8-sig") rfl txtB (by decide)
      _ rfl (some t!"unix") (by intro l h; cases h; exact ⟨false, rfl⟩) (some 1) (by intro i h; cases h; decide))
    prepared8sig (by decide) b!"#.change:\n" 0 none

/-- `windows-1252` given (an alias of `cp1252`), `indent=3`, kind detected (dos): the euro sign, the
curly quotes and the trade mark sign are single bytes of the block `0x80–0x9F` -/
def txt1252 : Text := t!"h€llo “x”\r\n#.change:\nwörld™"
def data1252 : Bytes :=
  [32, 32, 32, 104, 128, 108, 108, 111, 32, 147, 120, 148, 13, 10, 32, 32, 32, 35, 46, 99, 104, 97, 110, 103, 101,
   58, 10, 119, 246, 114, 108, 100, 153, 13, 10]

theorem prepared1252 :
    Writer.prepareContent cenv Codecs.cfg wst8 (.str txt1252) (some 3) none (some t!"windows-1252") true =
      .ok (data1252, t!"dos") :=
  Except.eq_ok_of_toOption (by decide +kernel)

theorem C01_text_roundtrip_cp1252 :
    Reader.readContent cenv Codecs.cfg ⟨data1252 ++ b!"#.change:\n", 0, none⟩ 35
        (some (.str b!"windows-1252")) (some (.int 3)) (some (.str b!"dos")) false =
      .ok (.text t!"h€llo “x”\r\n#.change:\nwörld™\r\n", ⟨b!"#.change:\n", 2, none⟩) :=
  Except.of_exists_ok (C01_text_roundtrip_concrete _ _ _ t!"windows-1252" .cp1252 rfl wst8 (some t!"windows-1252") rfl txt1252
      (by decide) _ rfl none (by intro l h; cases h) (some 3) (by intro i h; cases h; decide))
    prepared1252 (by decide) b!"#.change:\n" 0 none

end Diffx.C01
