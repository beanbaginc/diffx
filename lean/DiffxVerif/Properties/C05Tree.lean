import DiffxVerif.Lemmas.Except
import DiffxVerif.Lemmas.DomRoundTrip
import DiffxVerif.Properties.C01Run
import DiffxVerif.Properties.C05
/-!
# C05 (whole trees) — object model written then parsed gives back the normalised tree

> For every object-model tree that serialises without error, serialising and parsing it
> yields a tree with the same changes and files in the same order and, section by section,
> the same content and options as the original after the documented normalisation only
> (final line ending appended to text/diff, detected line_endings recorded, default preamble
> indent and metadata format recorded, empty content sections omitted).

`Properties/C05.lean` proves the two halves separately (`to_bytes` is the streaming writer run
on the tree's call sequence; the loader rebuilds the shape).  This file composes them with the
whole-sequence streaming round trip `C01_run` into **one equation about `from_bytes (to_bytes t)`**.

* Hypotheses: `to_bytes` succeeded, the call sequence `toCalls` derives from the tree,
  `ProgramLaws` for that sequence (Lemmas/RunRoundTrip.lean: argument well-formedness, codec and
  JSON laws; no reader function), `0 < cfg.chunk`, and `TreeOk t`.
  `TreeOk t` (decidable) says only that every content section sits in the slot of its class
  (`t.preamble.kind = .preamble`, …) — an invariant of the Python classes that the plain-data
  model `Tree` does not enforce.  That the main `encoding` option is a `str` and `version` is
  absent or `"1.0"` is what the `toCalls` equation (`some enc`, `"1.0"`) says.
* `expectedTree` is **fully structural**: `DomRT.expTree` recurses over the *tree*, threading the
  writer state with `runFrom` and splitting the laws of the call list along `++`, in lockstep
  with `treeCalls` — the call list `toCalls` yields, re-stated by recursion over the tree
  (`C05_calls_structural`).  It calls no `Reader.*`, `Dom.fromBytes`, `Dom.loadRecord`,
  and not even `recOpts` / `Dom.contentOpts`: the option lists are written out
  (`preambleOpts`, `metaOpts`, `diffOpts`, `optStr`).
  - tree options: `encoding`, `version` as read from the main header;
  - each change / file, in order, with the `encoding` option only if one was given;
  - a content section that is skipped (falsy content) ↦ the section of a fresh tree / change /
    file (`newPreamble`, `newMeta`, `newDiff`);
  - a written section ↦ its kind, the options the writer derives without `length`
    (preamble: `encoding`?, `indent` — the default indent when the key was absent, `None` when
    the text was not indented —, `line_endings`, `mimetype`?; metadata: `encoding`?, `format`;
    diff: `encoding`?, `line_endings`, `type`?), and the content of the laws
    (`L.text.decoded`, `L.parsed`, `L.data`).
-/
namespace Diffx.C05
open Diffx Diffx.Dom Diffx.DomRT
open Diffx.RunRT (ProgramLaws PreambleLaws MetaLaws DiffCallLaws)

/-- **The call list, structurally.** What `toCalls` yields is the constructor arguments and
`treeCalls`: main preamble, main metadata, then per change `new_change`, preamble, metadata and
per file `new_file`, metadata, diff — skipped sections left out. -/
theorem C05_calls_structural (di : Nat) (t : Tree) (wv : Text) (e : Option Name) (v : Text)
    (cs : List Writer.Call) (h : toCalls di t wv = .ok (e, v, cs)) :
    ctorArgs t wv = .ok (e, v) ∧ cs = treeCalls di t :=
  toCalls_treeCalls di t wv e v cs h

/-- **Object-model round trip**, with the laws stated for the structural call list: the whole-sequence round
trip `C01_run` gives the records, `load_records` loads them -/
theorem C05_tree_roundtrip_structural (env : Env) (cfg : Config) (wv : Text) (t : Tree) (b : Bytes)
    (hchunk : 0 < cfg.chunk) (hk : TreeOk t) (h : toBytes env cfg wv t = .ok b) (enc : Name)
    (hcalls : toCalls cfg.defaultIndent t wv =
      .ok (some enc, Text.ofAscii b!"1.0", treeCalls cfg.defaultIndent t))
    (laws : ProgramLaws env cfg enc (treeCalls cfg.defaultIndent t)) :
    fromBytes env cfg wv b =
      .ok (expTree env cfg cfg.defaultIndent enc (Writer.init (some enc) (Text.ofAscii b!"1.0")).1 t
        laws.calls) := by
  obtain ⟨hout, hok, hs⟩ := toBytes_run h hcalls
  have hrt := C01.C01_run env cfg cfg.chunk hchunk enc _ hok laws
  rw [hout] at hrt
  obtain ⟨_, hall, _⟩ := RunRT.run_ok hok
  obtain ⟨cur', hfold⟩ := load_records (wf_of_steps hk hs) hall laws cfg.defaultEncoding wv
  unfold fromBytes
  rw [hrt]
  simp only [hfold]

/-- **Object-model round trip for whole trees.** For every well-formed tree that serialises
without error, under the laws of the program it is serialised by, parsing the bytes yields
exactly the normalised tree `expectedTree`. -/
theorem C05_tree_roundtrip (env : Env) (cfg : Config) (wv : Text) (t : Tree) (b : Bytes)
    (hchunk : 0 < cfg.chunk) (hk : TreeOk t) (h : toBytes env cfg wv t = .ok b)
    (enc : Name) (calls : List Writer.Call)
    (hcalls : toCalls cfg.defaultIndent t wv = .ok (some enc, Text.ofAscii b!"1.0", calls))
    (laws : ProgramLaws env cfg enc calls) :
    fromBytes env cfg wv b = .ok (expectedTree env cfg wv t enc calls hcalls laws) := by
  have hc := (toCalls_treeCalls _ _ _ _ _ _ hcalls).2
  subst hc
  exact C05_tree_roundtrip_structural env cfg wv t b hchunk hk h enc hcalls laws

section Readable
variable (env : Env) (cfg : Config) (wv : Text) (t : Tree) (enc : Name) (calls : List Writer.Call)
  (hcalls : toCalls cfg.defaultIndent t wv = .ok (some enc, Text.ofAscii b!"1.0", calls))
  (laws : ProgramLaws env cfg enc calls)

/-- **Same changes and files, in the same order**: as many changes, and change by change as
many files -/
theorem C05_tree_shape :
    (expectedTree env cfg wv t enc calls hcalls laws).changes.length = t.changes.length ∧
    (expectedTree env cfg wv t enc calls hcalls laws).changes.map (·.files.length) =
      t.changes.map (·.files.length) :=
  ⟨expChanges_length, expChanges_shape⟩

/-- the main options are the encoding given and version 1.0 -/
theorem C05_tree_main_opts :
    (expectedTree env cfg wv t enc calls hcalls laws).opts =
      [(b!"encoding", .str enc), (b!"version", .str (Text.ofAscii b!"1.0"))] := rfl

/-- **Empty main sections are omitted**: they load as the sections of a fresh tree -/
theorem C05_tree_skipped_main :
    (t.preamble.content.truthy = false →
      (expectedTree env cfg wv t enc calls hcalls laws).preamble = newPreamble) ∧
    (t.metaSec.content.truthy = false →
      (expectedTree env cfg wv t enc calls hcalls laws).metaSec = newMeta) :=
  ⟨fun h => expSec_skip h, fun h => expSec_skip h⟩

/-- **Empty sections of changes and files are omitted** (they load as the sections of a fresh
change / file), the container options are the `encoding` given, if any -/
theorem C05_tree_skipped (i : Nat) (hi : i < t.changes.length) :
    ∃ c', (expectedTree env cfg wv t enc calls hcalls laws).changes[i]? = some c' ∧
      (t.changes[i].preamble.content.truthy = false → c'.preamble = newPreamble) ∧
      (t.changes[i].metaSec.content.truthy = false → c'.metaSec = newMeta) ∧
      (∀ e, containerCall Writer.Call.newChange t.changes[i].opts = .ok (some (.newChange e)) →
        c'.opts = optStr b!"encoding" e) ∧
      c'.files.length = t.changes[i].files.length ∧
      ∀ (j : Nat) (hj : j < t.changes[i].files.length),
        ∃ f', c'.files[j]? = some f' ∧
          (t.changes[i].files[j].metaSec.content.truthy = false → f'.metaSec = newMeta) ∧
          (t.changes[i].files[j].diff.content.truthy = false → f'.diff = newDiff) ∧
          (∀ e, containerCall Writer.Call.newFile t.changes[i].files[j].opts = .ok (some (.newFile e)) →
            f'.opts = optStr b!"encoding" e) := by
  obtain ⟨st', L', e⟩ := expChanges_get (lawsRight env cfg _ _ _ (lawsRight env cfg _ _ _
    ((toCalls_treeCalls _ _ _ _ _ _ hcalls).2 ▸ laws.calls))) hi
  refine ⟨_, e, fun h => expSec_skip h, fun h => expSec_skip h,
    fun enc h => by show containerDOpts _ = _; rw [h]; rfl, expFiles_length, fun j hj => ?_⟩
  obtain ⟨st'', L'', e'⟩ := expFiles_get
    (lawsRight env cfg _ _ _ (lawsRight env cfg _ _ _ (lawsRight env cfg _ _ _ L'))) hj
  exact ⟨_, e', fun h => expSec_skip h, fun h => expSec_skip h,
    fun enc h => by show containerDOpts _ = _; rw [h]; rfl⟩

/-- **A written main preamble**: kind, options (`encoding` / `mimetype` if given, the indent used
— `None` recorded when the text is not indented —, the detected `line_endings`; no `length`),
and the text as decoded (final line ending appended) -/
theorem C05_tree_main_preamble (tx : Text) (e : Option Name) (indent : Option Int) (le mime : Option Text)
    (hs : contentCall cfg.defaultIndent t.preamble = .ok (some (.preamble (.str tx) e indent le mime))) :
    ∃ L' : PreambleLaws env cfg (Writer.init (some enc) (Text.ofAscii b!"1.0")).1 tx e indent le,
      (expectedTree env cfg wv t enc calls hcalls laws).preamble =
        ⟨.preamble, preambleOpts e indent L'.leOut mime, .str L'.text.decoded⟩ :=
  expSec_preamble hs _

end Readable

/-- **the default preamble indent is recorded**: when the section has no `indent` key, the
writer is called with `DEFAULT_PREAMBLE_INDENT` -/
theorem C05_default_indent (di : Nat) (c : ContentSec) (text : Writer.Arg) (e : Option Name)
    (indent : Option Int) (le mime : Option Text)
    (h : contentCall di c = .ok (some (.preamble text e indent le mime)))
    (hi : c.opts.get b!"indent" = none) : indent = some (di : Int) := by
  have hc := DomConc.contentCall_some h
  unfold DomConc.callOf at hc
  cases hk : c.kind <;> rw [hk] at hc
  · injection hc with _ _ h3
    rw [h3, DomConc.indentOf, hi]
  · cases hc
  · cases hc

/-- the options of a loaded preamble, key by key -/
theorem C05_preamble_opts_get (e : Option Name) (indent : Option Int) (le : Text) (mime : Option Text) :
    (preambleOpts e indent le mime).get b!"encoding" = e.map PyVal.str ∧
    (preambleOpts e indent le mime).get b!"indent" =
      some (match indent with | some i => .int i | none => .none) ∧
    (preambleOpts e indent le mime).get b!"line_endings" = some (.str le) ∧
    (preambleOpts e indent le mime).get b!"mimetype" = mime.map PyVal.str ∧
    (preambleOpts e indent le mime).get b!"length" = none := by
  cases e <;> cases indent <;> cases mime <;> exact ⟨rfl, rfl, rfl, rfl, rfl⟩

/-! ## C06 (library-produced files): the normalised tree is a fixed point

> C06: For every file the library itself can produce, parsing it into the object model and
> serialising it again returns the identical bytes.

`ReLaws` (Lemmas/DomRoundTrip.lean, `ReCallLaws`) is a bundle of laws about **re-preparing
normalised content**, stated for `Writer.prepareContent` and `env.dumps` only, one per written
content section, in the writer state the section was written in:
* preamble: `_prepare_content(decoded, indent, line_endings=<recorded>, encoding)` gives the
  bytes the original text gave;
* metadata: the parsed dictionary is not empty and `json.dumps` of it is the text that was written;
* diff: `_prepare_content(prepared, line_endings=<recorded>, encoding)` changes nothing. -/

/-- **Fixed point.** Re-serialising the normalised tree gives exactly the bytes the original
tree serialised to. -/
theorem C06_tree_fixed_point (env : Env) (cfg : Config) (wv : Text) (t : Tree) (b : Bytes)
    (hk : TreeOk t) (h : toBytes env cfg wv t = .ok b) (enc : Name) (calls : List Writer.Call)
    (hcalls : toCalls cfg.defaultIndent t wv = .ok (some enc, Text.ofAscii b!"1.0", calls))
    (laws : ProgramLaws env cfg enc calls) (re : ReLaws env cfg enc calls laws) :
    toBytes env cfg wv (expectedTree env cfg wv t enc calls hcalls laws) = .ok b := by
  have hc := (toCalls_treeCalls _ _ _ _ _ _ hcalls).2
  subst hc
  obtain ⟨hout, hok, hs⟩ := toBytes_run h hcalls
  obtain ⟨hinit, hall, hrun⟩ := RunRT.run_ok hok
  refine toBytes_ok_iff.mpr ⟨some enc, _, _, rfl, hinit, retree enc hs hall re, ?_⟩
  rw [← hrun, hout]

/-- **Parse then re-serialise is the identity on library-produced files**: for the bytes `b` of
any well-formed tree, `from_bytes b` succeeds with some tree `t'` and `to_bytes t' = b`. -/
theorem C06_parse_serialise (env : Env) (cfg : Config) (wv : Text) (t : Tree) (b : Bytes)
    (hchunk : 0 < cfg.chunk) (hk : TreeOk t) (h : toBytes env cfg wv t = .ok b)
    (enc : Name) (calls : List Writer.Call)
    (hcalls : toCalls cfg.defaultIndent t wv = .ok (some enc, Text.ofAscii b!"1.0", calls))
    (laws : ProgramLaws env cfg enc calls) (re : ReLaws env cfg enc calls laws) :
    ∃ t', fromBytes env cfg wv b = .ok t' ∧ toBytes env cfg wv t' = .ok b :=
  ⟨_, C05_tree_roundtrip env cfg wv t b hchunk hk h enc calls hcalls laws,
    C06_tree_fixed_point env cfg wv t b hk h enc calls hcalls laws re⟩

/-! ## Non-vacuity: a concrete tree, its laws, and the conclusion as a closed true equation -/

open Diffx.C01 (cfg0 asciiEnv)

/-- `asciiEnv` with JSON functions for which the JSON laws hold and metadata survives:
every dict dumps to `{}`, every text loads as `{"k": 1}` -/
def treeEnv : Env :=
  { asciiEnv with
    dumps := fun _ => .ok (Text.ofAscii b!"{}"),
    loadsText := fun _ => .ok (.obj [(Text.ofAscii b!"k", .int 1)]) }

def tEnc : Name := Text.ofAscii b!"latin1"
def ver10 : Text := Text.ofAscii b!"1.0"
def jsonK : Json := .obj [(Text.ofAscii b!"k", .int 1)]
def jsonFmt : DOpts := [(b!"format", .str (Text.ofAscii b!"json"))]

/-- a tree with a main preamble (no `indent` key: the default indent applies), an empty main
metadata section (skipped), one change with metadata and no preamble (skipped), one file with
its own encoding, metadata and a diff without a final newline -/
def tree0 : Tree :=
  { opts := [(b!"encoding", .str tEnc), (b!"version", .str ver10)]
    preamble := ⟨.preamble, [(b!"mimetype", .str (Text.ofAscii b!"text/plain"))], .str (Text.ofAscii b!"hi")⟩
    metaSec := newMeta
    changes := [
      { opts := []
        preamble := newPreamble
        metaSec := ⟨.metadata, jsonFmt, .dict jsonK⟩
        files := [
          { opts := [(b!"encoding", .str (Text.ofAscii b!"utf-8"))]
            metaSec := ⟨.metadata, jsonFmt, .dict jsonK⟩
            diff := ⟨.diff, [(b!"type", .str (Text.ofAscii b!"text"))], .bytes b!"-a\n+b"⟩ }] }] }

theorem tree0_ok : TreeOk tree0 := by decide

def bytes0 : Bytes :=
  b!"#diffx: encoding=latin1, version=1.0\n#.preamble: indent=4, length=7, line_endings=unix, mimetype=text/plain\n    hi\n#.change:\n#..meta: format=json, length=3\n{}\n#..file: encoding=utf-8\n#...meta: format=json, length=3\n{}\n#...diff: length=6, line_endings=unix, type=text\n-a\n+b\n"

theorem tree0_bytes : toBytes treeEnv cfg0 ver10 tree0 = .ok bytes0 :=
  Except.eq_ok_of_toOption (by decide +kernel)

def tc1 : Writer.Call :=
  .preamble (.str (Text.ofAscii b!"hi")) none (some 4) none (some (Text.ofAscii b!"text/plain"))
def tc2 : Writer.Call := .newChange none
def tc3 : Writer.Call := .metadata (.dict jsonK) none (Text.ofAscii b!"json")
def tc4 : Writer.Call := .newFile (some (Text.ofAscii b!"utf-8"))
def tc5 : Writer.Call := .metadata (.dict jsonK) none (Text.ofAscii b!"json")
def tc6 : Writer.Call := .diff (.bytes b!"-a\n+b") (some (Text.ofAscii b!"text")) none none

def calls0 : List Writer.Call := [tc1, tc2, tc3, tc4, tc5, tc6]

/-- the program `write_stream` runs for the tree -/
theorem tree0_calls :
    toCalls cfg0.defaultIndent tree0 ver10 = .ok (some tEnc, Text.ofAscii b!"1.0", calls0) := by rfl

def tst0 : Writer.St := (Writer.init (some tEnc) (Text.ofAscii b!"1.0")).1
def tst1 : Writer.St := (Writer.step treeEnv cfg0 tst0 tc1).1
def tst2 : Writer.St := (Writer.step treeEnv cfg0 tst1 tc2).1
def tst3 : Writer.St := (Writer.step treeEnv cfg0 tst2 tc3).1
def tst4 : Writer.St := (Writer.step treeEnv cfg0 tst3 tc4).1
def tst5 : Writer.St := (Writer.step treeEnv cfg0 tst4 tc5).1

def tlaws1 : PreambleLaws treeEnv cfg0 tst0 (Text.ofAscii b!"hi") none (some 4) none where
  encOk := by intro n h; cases h
  indentOk := by intro i h; cases h; decide
  data := b!"    hi\n"
  leOut := Text.ofAscii b!"unix"
  hprep := rfl
  hlen := by decide
  text :=
    { encName := b!"latin1", heff := rfl, dos := false, hle := rfl, raw := [10], henc := rfl,
      nl := [10], hbom := rfl, hne := by decide, hu := by decide, hsp := by decide,
      plain := b!"hi\n", hplain := rfl, decoded := Text.ofAscii b!"hi\n", hdec := rfl, hdecNl := rfl,
      hendT := by decide }

/-- the laws of `write_meta(jsonK)` under `treeEnv` in a writer state whose current encoding is `e`: the
codec is the same under every name, so only the two facts that mention the state are left open -/
def kMetaLaws (st : Writer.St) (e : Bytes) (heff : st.curEncoding = some (Text.ofAscii e))
    (hplain : Writer.prepareContent treeEnv cfg0 st (.str (Text.ofAscii b!"{}")) none none none true =
      .ok (b!"{}\n", Text.ofAscii b!"unix")) : MetaLaws treeEnv cfg0 st jsonK none where
  encOk := nofun
  text := Text.ofAscii b!"{}"
  hdumps := rfl
  leOut := Text.ofAscii b!"unix"
  tl :=
    { encName := e, heff := heff, dos := false, hle := rfl, raw := [10], henc := rfl,
      nl := [10], hbom := rfl, hne := by decide, hu := by decide, hsp := by decide,
      plain := b!"{}\n", hplain := hplain, decoded := Text.ofAscii b!"{}\n", hdec := rfl, hdecNl := rfl,
      hendT := by decide }
  hlen := by show 3 ≤ Reader.maxRead; decide
  hguess := fun _ => rfl
  parsed := jsonK
  hloads := rfl
  hobj := rfl

def tlaws6 : DiffCallLaws treeEnv cfg0 tst5 b!"-a\n+b" none none where
  encOk := by intro n h; cases h
  data := b!"-a\n+b\n"
  leOut := Text.ofAscii b!"unix"
  hprep := rfl
  hlen := by decide
  dl :=
    { encName := none, henc := rfl, dos := false, hle := rfl, nl := [10],
      hw := by
        refine ⟨false, rfl, ?_, ?_⟩
        · intro l h; cases h
        · exact ⟨[10], [13, 10], [10], [13, 10], rfl, rfl, rfl, rfl, by decide, rfl⟩
      rawR := [10], hencR := rfl, hbomR := rfl, hne := by decide }

def treeLaws : ProgramLaws treeEnv cfg0 tEnc calls0 where
  encOk := ⟨by decide, by decide, by decide⟩
  calls :=
    ((tlaws1 : RunRT.CallLaws treeEnv cfg0 tst0 tc1),
     ((⟨by intro n h; cases h⟩ : RunRT.CallLaws treeEnv cfg0 tst1 tc2),
      ((kMetaLaws tst2 b!"latin1" rfl rfl : RunRT.CallLaws treeEnv cfg0 tst2 tc3),
       ((⟨by intro n h; cases h; exact ⟨by decide, by decide, by decide⟩⟩ :
          RunRT.CallLaws treeEnv cfg0 tst3 tc4),
        ((kMetaLaws tst4 b!"utf-8" rfl rfl : RunRT.CallLaws treeEnv cfg0 tst4 tc5),
         ((tlaws6 : RunRT.CallLaws treeEnv cfg0 tst5 tc6), PUnit.unit))))))

/-- the normalised tree, written out: the default indent (4) and the detected line endings are
recorded, the final newline is appended to the preamble text and to the diff, the empty main
metadata and the change's preamble are the defaults, everything else is as in `tree0` -/
def loaded0 : Tree :=
  { opts := [(b!"encoding", .str tEnc), (b!"version", .str ver10)]
    preamble := ⟨.preamble,
      [(b!"indent", .int 4), (b!"line_endings", .str (Text.ofAscii b!"unix")),
       (b!"mimetype", .str (Text.ofAscii b!"text/plain"))], .str (Text.ofAscii b!"hi\n")⟩
    metaSec := newMeta
    changes := [
      { opts := []
        preamble := newPreamble
        metaSec := ⟨.metadata, jsonFmt, .dict jsonK⟩
        files := [
          { opts := [(b!"encoding", .str (Text.ofAscii b!"utf-8"))]
            metaSec := ⟨.metadata, jsonFmt, .dict jsonK⟩
            diff := ⟨.diff,
              [(b!"line_endings", .str (Text.ofAscii b!"unix")), (b!"type", .str (Text.ofAscii b!"text"))],
              .bytes b!"-a\n+b\n"⟩ }] }] }

theorem expectedTree0_eq : expectedTree treeEnv cfg0 ver10 tree0 tEnc calls0 tree0_calls treeLaws = loaded0 := by
  rfl

/-- `C05_tree_roundtrip` instantiated … -/
theorem C05_tree_instance : fromBytes treeEnv cfg0 ver10 bytes0 = .ok loaded0 := by
  rw [← expectedTree0_eq]
  exact C05_tree_roundtrip treeEnv cfg0 ver10 tree0 bytes0 (by decide) tree0_ok tree0_bytes tEnc calls0
    tree0_calls treeLaws

set_option maxRecDepth 16384 in
/-- … a closed equation that is true by evaluation as well -/
example : fromBytes treeEnv cfg0 ver10 bytes0 = .ok loaded0 := by rfl

theorem treeReLaws : ReLaws treeEnv cfg0 tEnc calls0 treeLaws :=
  ⟨rfl, trivial, ⟨(by intro h; injection h with h; cases h), rfl⟩, trivial,
    ⟨(by intro h; injection h with h; cases h), rfl⟩, rfl, trivial⟩

/-- `C06_tree_fixed_point` instantiated: the loaded tree serialises to the same bytes … -/
theorem C06_tree_instance : toBytes treeEnv cfg0 ver10 loaded0 = .ok bytes0 := by
  rw [← expectedTree0_eq]
  exact C06_tree_fixed_point treeEnv cfg0 ver10 tree0 bytes0 tree0_ok tree0_bytes tEnc calls0
    tree0_calls treeLaws treeReLaws

set_option maxRecDepth 8192 in
/-- … a closed equation that is true by evaluation as well -/
example : toBytes treeEnv cfg0 ver10 loaded0 = .ok bytes0 := Except.eq_ok_of_toOption (by decide +kernel)

/-! ## Why `TreeOk` is needed (a fact about the plain-data model, not about pydiffx)

The model's `Tree` lets any `ContentSec` sit in any slot.  A metadata-kind section put in the
`preamble` slot is written as `#.meta:` and therefore loaded into the `metaSec` slot: the
sections are not "the same, slot by slot".  In Python the slots hold objects of fixed classes,
so this cannot happen. -/

def treeBad : Tree :=
  { opts := [(b!"encoding", .str tEnc), (b!"version", .str ver10)]
    preamble := ⟨.metadata, jsonFmt, .dict jsonK⟩
    metaSec := newMeta
    changes := [] }

theorem treeBad_not_ok : ¬ TreeOk treeBad := by decide

/-- the ill-formed tree serialises, and what was in the `preamble` slot comes back in `metaSec` -/
theorem C05_kind_slot_witness :
    toBytes treeEnv cfg0 ver10 treeBad = .ok b!"#diffx: encoding=latin1, version=1.0\n#.meta: format=json, length=3\n{}\n" ∧
    fromBytes treeEnv cfg0 ver10 b!"#diffx: encoding=latin1, version=1.0\n#.meta: format=json, length=3\n{}\n" =
      .ok { treeBad with preamble := newPreamble, metaSec := ⟨.metadata, jsonFmt, .dict jsonK⟩ } :=
  ⟨Except.eq_ok_of_toOption (by decide +kernel), by rfl⟩

end Diffx.C05
