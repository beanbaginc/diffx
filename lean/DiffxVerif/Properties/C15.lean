import DiffxVerif.Lemmas.Codec
import DiffxVerif.Lemmas.CodecSame
import DiffxVerif.Tie.Boms
/-!
# C15 — Newline and BOM handling depends on the codec, not on how its name is spelled

> For every text codec the platform supports statelessly and every spelling of its
> name that can stand as an option value and is not purely numeric (case,
> hyphen/underscore variants, registered aliases, BOM-emitting variants), the
> newline bytes the library appends, splits on and checks for are exactly the
> encoding of LF or CRLF in that codec without any byte-order mark, and therefore
> writing and then reading a section gives the same text, and the same bytes
> apart from the spelled name, for every spelling.

The models use a codec name only through the environment (`env.canon`,
`env.encode`, `env.decode`); `SameCodec env n₁ n₂` says the environment does not
distinguish two names (CPython resolves every spelling / alias to one codec
object; tested for ~1,100 spellings by the check).
-/
namespace Diffx.C15
open Diffx

/-- **Spelling independence of the newline** (`get_newline_for_type`). -/
theorem C15_newline_spelling (env : Env) (cfg : Config) (ln : Nat) (dos : Bool) (n₁ n₂ : Name)
    (h : SameCodec env n₁ n₂) (hok : ∃ c, env.canon n₁ = .ok c) :
    Reader.newlineFor env cfg ln dos (some n₁) = Reader.newlineFor env cfg ln dos (some n₂) :=
  newlineFor_same cfg ln dos h hok

/-- **Spelling independence of line-ending detection** (`guess_line_endings`). -/
theorem C15_guess_spelling (env : Env) (cfg : Config) (ln : Nat) (content : Bytes) (n₁ n₂ : Name)
    (h : SameCodec env n₁ n₂) (hok : ∃ c, env.canon n₁ = .ok c) :
    Reader.guessLineEndings env cfg ln content (some n₁) = Reader.guessLineEndings env cfg ln content (some n₂) :=
  guess_same cfg ln content h hok

/-- **Whole content section, reader**: two spellings of one codec give the same
result of `_read_content` (same text or error, same bytes consumed, same line count). -/
theorem C15_read_spelling (env : Env) (cfg : Config) (st : Reader.St) (len : Nat) (b₁ b₂ : Bytes)
    (ind le : Option OptVal) (kb : Bool)
    (h : SameCodec env (Name.ofBytes b₁) (Name.ofBytes b₂))
    (hok : ∃ c, env.canon (Name.ofBytes b₁) = .ok c) :
    Reader.readContent env cfg st len (some (.str b₁)) ind le kb =
      Reader.readContent env cfg st len (some (.str b₂)) ind le kb := by
  rw [Reader.readContent_core, Reader.readContent_core]
  simp only [Reader.rcCore, Reader.rcTail, Reader.rcEnc, Except.ok_bind, rcNewline_same cfg h hok, rcDecode_same h]

/-- **Whole content section, writer**: the prepared bytes are the same under
both spellings (the header differs only in the spelled name). -/
theorem C15_write_spelling (env : Env) (cfg : Config) (st : Writer.St) (content : Writer.Arg)
    (indent : Option Int) (le : Option Text) (n₁ n₂ : Name) (inherit : Bool)
    (ht : Writer.truthy (some n₁) = true) (ht2 : Writer.truthy (some n₂) = true)
    (h : SameCodec env n₁ n₂) (hok : ∃ c, env.canon n₁ = .ok c) :
    Writer.prepareContent env cfg st content indent le (some n₁) inherit =
      Writer.prepareContent env cfg st content indent le (some n₂) inherit := by
  have h1 : env.encode n₁ = env.encode n₂ := funext h.2.1
  have hsb : ∀ data, stripBom env cfg data (some n₁) = stripBom env cfg data (some n₂) :=
    fun data => stripBom_same cfg h data hok
  unfold Writer.prepareContent
  simp only [ht, ht2, Bool.not_true, Bool.false_and, Bool.false_eq_true, if_false, if_true, Option.getD_some,
    h1, hsb]

/-- **BOM-free.** For a codec that prepends `bom` when encoding, if the BOM table
has an adequate row under the codec's canonical name, the newline the library
uses is the encoding of LF / CRLF without the BOM — for every spelling `n` that
resolves to that canonical name. -/
theorem C15_bom_free (env : Env) (cfg : Config) (ln : Nat) (dos : Bool) (n canon : Name) (bom nl0 : Bytes)
    (hc : env.canon n = .ok canon) (he : env.encode n (nlText dos) = .ok (bom ++ nl0))
    (hrow : BomRowFor cfg canon bom) :
    Reader.newlineFor env cfg ln dos (some n) = .ok nl0 := by
  obtain ⟨b0, bs, hl, hm, hlen⟩ := hrow
  have hany : (b0 :: bs).any (fun b => b.isPrefixOf (bom ++ nl0)) = true := by
    rw [List.any_eq_true]
    exact ⟨bom, hm, by simp⟩
  have hdrop : (bom ++ nl0).drop b0.length = nl0 := by
    rw [← hlen bom hm]; simp
  simp only [Reader.newlineFor, Option.getD_some, he, Reader.liftEnv, bind, Except.bind, stripBom, hc, hl]
  rw [if_pos hany, hdrop]

/-- a codec without BOM and without a row: the newline is its plain encoding -/
theorem C15_plain (env : Env) (cfg : Config) (ln : Nat) (dos : Bool) (n canon : Name) (nl0 : Bytes)
    (hc : env.canon n = .ok canon) (he : env.encode n (nlText dos) = .ok nl0)
    (hrow : cfg.boms.lookup canon = none) :
    Reader.newlineFor env cfg ln dos (some n) = .ok nl0 := by
  simp [Reader.newlineFor, he, Reader.liftEnv, bind, Except.bind, stripBom, hc, hrow]

/-- **The repository's table is adequate** for every BOM-emitting platform codec
(tie, re-checked against the working tree on every run). -/
theorem C15_table_adequate :
    ∀ p ∈ Tie.platformBoms, ∀ bom ∈ p.2, BomRowFor Generated.config p.1 bom :=
  Tie.tie_boms

/-- hence, with the repository's table, for every spelling resolving to `utf-16`,
`utf-32` or `utf-8-sig` the newline is BOM-free -/
theorem C15_configured (env : Env) (ln : Nat) (dos : Bool) (n : Name) (p : Name × List Bytes)
    (hp : p ∈ Tie.platformBoms) (bom : Bytes) (hb : bom ∈ p.2) (nl0 : Bytes)
    (hc : env.canon n = .ok p.1) (he : env.encode n (nlText dos) = .ok (bom ++ nl0)) :
    Reader.newlineFor env Generated.config ln dos (some n) = .ok nl0 :=
  C15_bom_free env Generated.config ln dos n p.1 bom nl0 hc he (C15_table_adequate p hp bom hb)

end Diffx.C15
