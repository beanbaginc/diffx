import DiffxVerif.Lemmas.SpecRead
import DiffxVerif.Lemmas.Table
/-!
# C03 — Reader yields exactly what the specification says a well-formed file contains

> For every structurally well-formed DiffX file, including files from other
> producers (options in any order, optional options absent, blank lines between
> sections, CRLF header lines, compact JSON), the streaming reader yields records
> whose id, level, logical start line, options (integers converted) and content
> equal the specification's reading: content is exactly the declared number of
> bytes after the header, split on the declared or first-line-detected line
> ending, indentation stripped before decoding with the nearest declared encoding,
> metadata parsed as JSON, diffs returned as bytes. A file with a single spec
> violation (unsupported or missing version, missing length, content not ending in
> its newline, format other than json, invalid JSON, unknown line_endings value)
> is rejected with a parse error whose line number designates the offending
> section.

The theorems describe one iteration of the reader (`Reader.stepSection`) from an
arbitrary loop state, so they apply to every section of every file; whole files
are Properties/C03File.lean.  Header
grammar and option order: C11/C12; section order: C10; encoding scope: C04;
framing by `length`: C07; block size: C17.  Whole files from an independent
specification-derived generator are compared three ways (implementation, this
model, harness/specdoc.py) by the check.
-/
namespace Diffx.C03
open Diffx Diffx.Reader Diffx.Header

/-- **Blank lines before a header are skipped** (and not counted): whitespace-only
lines in front of the next header do not change what is read. -/
theorem C03_blank_lines (chunk : Nat) (hc : 0 < chunk) (blank rest : Bytes) (f₁ f₂ : Nat)
    (hb : BlankLines blank) (h₁ : (blank ++ rest).length < f₁) (h₂ : rest.length < f₂) :
    nextLine chunk f₁ (blank ++ rest) = nextLine chunk f₂ rest :=
  nextLine_skip_blank hc hb h₁ h₂

/-- **Container sections.** A `.change` / `..file` header allowed at this point is
yielded as a container record with the header's options, at the header's
logical line; the line counter advances by one. -/
theorem C03_container (env : Env) (cfg : Config) (chunk : Nat) (l : Loop) (hdr : Hdr) (ln : Nat) (st : St)
    (hh : readHeader chunk l.valid l.st = .ok (some (hdr, ln, st)))
    (hs : hdr.sec = SecId.change ∨ hdr.sec = SecId.file) :
    ∃ l', stepSection env cfg chunk l = .ok (some (⟨hdr.sec, ln, hdr.opts, .container⟩, l')) ∧
      l'.st = st ∧ l'.valid = validNext hdr.sec ∧
      l'.encodings = pushEnc l.encodings l.prevLevel hdr.sec (hdr.opts.get b!"encoding") := by
  obtain ⟨hc, hm⟩ := container_sec hs
  rw [stepSection_of_header hh, stepHdr_container hc (verCheck_skip hm _ _)]
  exact ⟨_, rfl, rfl, rfl, rfl⟩

/-- **Main header**: accepted exactly with a supported `version` option. -/
theorem C03_main (env : Env) (cfg : Config) (chunk : Nat) (l : Loop) (hdr : Hdr) (ln : Nat) (st : St)
    (hh : readHeader chunk l.valid l.st = .ok (some (hdr, ln, st))) (hs : hdr.sec = SecId.main) :
    (hdr.opts.get b!"version" = some (.str b!"1.0") →
      ∃ l', stepSection env cfg chunk l = .ok (some (⟨hdr.sec, ln, hdr.opts, .container⟩, l'))) ∧
    (hdr.opts.get b!"version" ≠ some (.str b!"1.0") →
      stepSection env cfg chunk l = .error (.parseError ln none)) :=
  step_main env cfg hh hs

/-- **Metadata format**: any `format` other than `json` is rejected at the header's line. -/
theorem C03_bad_format (env : Env) (cfg : Config) (chunk : Nat) (l : Loop) (hdr : Hdr) (ln : Nat) (st : St) (v : OptVal)
    (hh : readHeader chunk l.valid l.st = .ok (some (hdr, ln, st)))
    (hs : metaSections.contains hdr.sec = true)
    (hlen : ∃ n : Int, hdr.opts.get b!"length" = some (.int n) ∧ 0 ≤ n)
    (hf : hdr.opts.get b!"format" = some v) (hv : v ≠ .str b!"json") :
    stepSection env cfg chunk l = .error (.parseError ln none) := by
  obtain ⟨hc, hp, _⟩ := meta_sec hs
  obtain ⟨n, hlen, hn⟩ := hlen
  have hfmt : fmtCheck hdr.sec hdr.opts ln = .error (.parseError ln none) := by
    unfold fmtCheck
    rw [hp, hs, hf]
    have : (v != OptVal.str b!"json") = true := by simpa using hv
    simp only [this, Bool.not_false, Bool.and_self, if_true]
  rw [stepSection_of_header hh]
  simp only [stepHdr, hc, if_true, lengthOf_int _ hlen hn, hfmt]
  rfl

/-- **Content errors are positioned at the first content line** (the line after
the header): an unknown `line_endings` value, or content that does not end with
its newline. -/
theorem C03_bad_line_endings (env : Env) (cfg : Config) (st : St) (length : Nat) (enc ind : Option OptVal)
    (s : Bytes) (kb : Bool) (hs : s ≠ b!"unix" ∧ s ≠ b!"dos")
    (hok : enc = none ∨ ∃ e, enc = some (.str e)) (hl : length ≤ maxRead) (hne : st.rest.take length ≠ [])
    (hstrict : cfg.strictLength = false) :
    readContent env cfg st length enc ind (some (.str s)) kb = .error (.parseError st.linenum none) := by
  obtain ⟨e, he⟩ : ∃ e, rcEnc st.linenum enc = .ok e := by
    rcases hok with rfl | ⟨e, rfl⟩
    · exact ⟨_, rfl⟩
    · exact ⟨_, rfl⟩
  rw [readContent_core, rcCore_parseError _ _ he (by simp only [rcNewline, hs.1, hs.2, if_false]; rfl)]
  rfl

/-- … and content that does not end with its (declared) newline -/
theorem C03_no_trailing_newline (env : Env) (cfg : Config) (st : St) (length : Nat) (e : Option Bytes)
    (ind : Option OptVal) (dos : Bool) (nl : Bytes) (kb : Bool)
    (hl : length ≤ maxRead) (hne : st.rest.take length ≠ []) (hstrict : cfg.strictLength = false)
    (hnl : newlineFor env cfg st.linenum dos (e.map Name.ofBytes) = .ok nl) (hnn : nl ≠ [])
    (hend : endsWith (st.rest.take length) nl = false) :
    readContent env cfg st length (e.map OptVal.str) ind (some (.str (if dos then b!"dos" else b!"unix"))) kb =
      .error (.parseError st.linenum none) := by
  rw [readContent_core, rcCore_parseError _ _ (rcEnc_str _ e) (by
    rw [rcNewline_declared, hnl, Except.ok_bind]
    unfold rcTail
    rw [List.isEmpty_eq_false_iff.mpr hnn, hend]
    rfl)]
  rfl

/-- **Invalid JSON / not an object** is rejected at the metadata header's line. -/
theorem C03_bad_json (env : Env) (cfg : Config) (chunk : Nat) (l : Loop) (hdr : Hdr) (ln : Nat) (st st' : St) (n : Nat)
    (t : Text)
    (hh : readHeader chunk l.valid l.st = .ok (some (hdr, ln, st)))
    (hs : metaSections.contains hdr.sec = true)
    (hlen : hdr.opts.get b!"length" = some (.int n))
    (hf : hdr.opts.get b!"format" = none ∨ hdr.opts.get b!"format" = some (.str b!"json"))
    (hc : readContent env cfg st n (contentEncoding hdr.sec hdr.opts l.encodings) none
            (hdr.opts.get b!"line_endings") false = .ok (.text t, st'))
    (hj : env.loadsText t = .err ∨ ∃ j, env.loadsText t = .ok j ∧ j.isObj = false) :
    stepSection env cfg chunk l = .error (.parseError ln none) := by
  obtain ⟨hcs, hp, _⟩ := meta_sec hs
  have hfmt : fmtCheck hdr.sec hdr.opts ln = .ok () := by
    unfold fmtCheck
    rw [hp, hs]
    rcases hf with hf | hf <;> rw [hf]
    · rfl
    · rfl
  have hk := rcKeep_meta hs
  have hco : contentOf env hdr.sec ln (.text t) = .error (.parseError ln none) := by
    simp only [contentOf, hp, hs, Bool.false_eq_true, if_false, if_true]
    rcases hj with hj | ⟨j, hj, ho⟩
    · rw [hj]; rfl
    · rw [hj]; simp only [liftEnv, Except.ok_bind, ho, Bool.not_false, if_true]
  rw [stepSection_of_header hh]
  simp only [Except.ok_bind, stepHdr, hcs, if_true, lengthOf_nat ln hlen, hfmt, rcIndent_other hp, hk, hc, hco]
  rfl

/-- **A conforming content section is yielded as the specification reads it**:
id and logical line of its header, the header's options, the content returned by
`_read_content` for exactly `length` bytes with the section's effective encoding
(own option, else nearest enclosing declaration; diffs: own option only), and the
loop continues after those bytes with the successor set of the hierarchy; the
encoding stack and the container level are unchanged.

The record's content is `sectionContent hdr.sec got` (`Lemmas/SpecRead.lean`):
`.text t` for decoded text, and for bytes `b` it is `.textBytes b` in a preamble
and `.diff b` in a diff section; for a diff section `_read_content` (called with
`keep_bytes`) always returns bytes. -/
theorem C03_content (env : Env) (cfg : Config) (chunk : Nat) (l : Loop) (hdr : Hdr) (ln : Nat) (st st' : St) (n : Nat)
    (got : Got)
    (hh : readHeader chunk l.valid l.st = .ok (some (hdr, ln, st)))
    (hs : preambleSections.contains hdr.sec = true ∨ hdr.sec = SecId.fileDiff)
    (hlen : hdr.opts.get b!"length" = some (.int n))
    (hc : readContent env cfg st n (contentEncoding hdr.sec hdr.opts l.encodings)
            (if preambleSections.contains hdr.sec then hdr.opts.get b!"indent" else none)
            (hdr.opts.get b!"line_endings") (hdr.sec == SecId.fileDiff) = .ok (got, st')) :
    ∃ l', stepSection env cfg chunk l =
        .ok (some (⟨hdr.sec, ln, hdr.opts, sectionContent hdr.sec got⟩, l')) ∧
      l'.st = st' ∧ l'.valid = validNext hdr.sec ∧ l'.encodings = l.encodings ∧
      l'.prevLevel = l.prevLevel ∧
      (hdr.sec = SecId.fileDiff → ∃ b, got = .bytes b) := by
  obtain ⟨sec, opts⟩ := hdr
  dsimp only at hs hlen hc ⊢
  refine ⟨⟨st', validNext sec, l.encodings, l.prevLevel⟩, ?_, rfl, rfl, rfl, rfl, ?_⟩
  · rw [stepSection_of_header hh]
    rcases hs with hp | hd
    · obtain ⟨hcs, _, hfd⟩ := preamble_sec hp
      rw [hp, beq_false_of_ne hfd, if_pos rfl] at hc
      refine stepHdr_content hcs hlen (fmtCheck_skip (.inl hp) _ _)
        (by rw [rcIndent_preamble hp, rcKeep_preamble hp]; exact hc) ?_
      rw [contentOf_preamble hp]
      cases got <;> simp only [sectionContent, hfd, if_false]
    · subst hd
      obtain ⟨b, rfl⟩ := readContent_keep_bytes hc
      exact stepHdr_content (by decide) hlen (fmtCheck_skip (.inr (by decide)) _ _) hc
        (contentOf_diff (by decide) (by decide) env ln _)
  · rintro rfl
    exact readContent_keep_bytes hc

/-- the content of a diff record is the bytes `_read_content` returned -/
theorem C03_content_diff (sec : SecId) (b : Bytes) (hs : sec = SecId.fileDiff) :
    sectionContent sec (.bytes b) = .diff b := by
  subst hs; rfl

/-- the content of a preamble record: decoded text, or bytes when no encoding is in effect -/
theorem C03_content_preamble (sec : SecId) (hs : preambleSections.contains sec = true) (t : Text) (b : Bytes) :
    sectionContent sec (.text t) = .text t ∧ sectionContent sec (.bytes b) = .textBytes b := by
  exact ⟨rfl, by simp only [sectionContent, (preamble_sec hs).2.2, if_false]⟩

end Diffx.C03
