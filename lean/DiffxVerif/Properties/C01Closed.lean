import DiffxVerif.Lemmas.Except
import DiffxVerif.Lemmas.JsonProofs
import DiffxVerif.Properties.C01Concrete
import DiffxVerif.Properties.C05Concrete
/-!
# C01 / C05 / C06 — the whole-file theorems over a closed environment

`Properties/C01Concrete.lean` and `Properties/C05Concrete.lean` prove the whole-run and
whole-tree round trips for the concrete Lean codecs and for *any* `json.dumps` / `json.loads`
satisfying `JsonLaws Dom`.  `Model/JsonText.lean` is an executable model of the two CPython
functions as pydiffx calls them (compared with CPython on every run: driver operation `json`,
harness/props/leanjson.py), and `Lemmas/JsonProofs.lean` proves the laws about it on the domain
`JsonText.Dom` — values that present a Python object: dict keys strictly increasing, strings of
code points below 0x110000 without a high surrogate directly followed by a low one (the excluded
point is real: `json.loads(json.dumps(chr(0xD800) + chr(0xDC00)))` is `chr(0x10000)`, reproduced here as
`JsonText` example and on the implementation), float lexemes that the number scanner reads back.

So here **no hypothesis about the environment is left**: `Codecs.env JsonText.dumps JsonText.loads lb`
is a closed term up to `lb` (`json.loads(bytes)`, of which nothing is assumed and which the reader
calls only for metadata without any encoding in effect — never on what the writer wrote).  What
remains modelled-not-verified is the correspondence of these Lean functions with CPython
(differential, every run) and float printing (floats are lexemes).

Each closed theorem is instantiated below with this `json` (no mock); the byte-level facts are
evaluated by the kernel.
-/
namespace Diffx.C01
open Diffx Diffx.Codecs Diffx.Writer Diffx.RunRT Diffx.DomConc Diffx.Dom

/-- **the laws of `json`, proved** for the Lean model of `json.dumps(obj, indent=4, separators=(',', ': '),
sort_keys=True)` / `json.loads` on the domain `JsonText.Dom` -/
theorem jsonLaws_closed : JsonLaws JsonText.Dom JsonText.dumps JsonText.loads where
  ascii l text hd h := JsonText.dumps_ascii (.obj l) hd text h
  noCR l text hd h := JsonText.dumps_noCR (.obj l) hd text h
  loads l text hd h := by
    have hl := (JsonText.dumps_last (.obj l) hd text h).2
    have hn : normText text false = text ++ [10] :=
      if_neg fun hb => hl (by obtain ⟨p, rfl⟩ := endsWith_iff_suffix.1 hb; simp [nlText])
    rw [hn]
    exact JsonText.loads_dumps (.obj l) hd text h [10] (by decide)

variable (lb : Bytes → EnvR Json)

/-- **C01, closed.**  `C01_run_concrete` with the JSON laws discharged: for the concrete codecs
and the Lean `json`, every accepted list of public calls whose dictionaries present Python objects
is read back, at any block size, as one record per call with the contents written. -/
theorem C01_run_closed (chunk : Nat) (hc : 0 < chunk) (enc : Name) (calls : List Writer.Call)
    (hok : ∀ r ∈ (Writer.run (Codecs.env JsonText.dumps JsonText.loads lb) Codecs.cfg (some enc) t!"1.0" calls).2, r = .ok)
    (hwf : DictArgs calls) (hdom : DictsIn JsonText.Dom calls)
    (hsize : (Writer.run (Codecs.env JsonText.dumps JsonText.loads lb) Codecs.cfg (some enc) t!"1.0" calls).1.out.length
      ≤ Reader.maxRead) :
    ∃ recs, Reader.readAll (Codecs.env JsonText.dumps JsonText.loads lb) Codecs.cfg chunk
        (Writer.run (Codecs.env JsonText.dumps JsonText.loads lb) Codecs.cfg (some enc) t!"1.0" calls).1.out = (recs, .done) ∧
      recs.length = calls.length + 1 ∧
      recs.map (·.content) = .container :: calls.map contentOfCall ∧
      recs.map (·.sec) = SecId.main :: secIds 1 calls :=
  let ⟨recs, h1, h2, h3, h4, _⟩ :=
    C01_run_concrete JsonText.dumps JsonText.loads lb jsonLaws_closed chunk hc enc calls hok hwf hdom hsize
  ⟨recs, h1, h2, h3, h4⟩

/-! ## Non-vacuity: the hypotheses of the closed theorems are satisfiable with the real `json` -/

/-- a dict with a non-ASCII value holding a lone surrogate, a nested list (an integer, a float
lexeme, `None`) and a nested dict; keys in increasing order at both levels -/
def kj : Json :=
  .obj [(t!"k", .str [233, 0xD800]),
        (t!"list", .arr [.int 1, .float b!"1.5", .null, .obj [(t!"a", .bool true), (t!"b", .int (-7))]])]

/-- `1.5` is a float lexeme: ASCII, read back entirely by the number scanner as that float -/
theorem float15_lex : JsonText.FloatLex b!"1.5" := Or.inr (Or.inr (Or.inr ⟨by decide, rfl⟩))

theorem kj_dom : JsonText.Dom kj := by
  simp only [kj, JsonText.Dom, JsonText.DomList, JsonText.DomPairs, JsonText.KeysSorted, JsonText.StrOk]
  simp only [float15_lex, and_true, true_and]
  decide

theorem jk_dom : JsonText.Dom jk := by
  simp only [jk, JsonText.Dom, JsonText.DomPairs, JsonText.KeysSorted, JsonText.StrOk]
  decide

theorem j2_dom : JsonText.Dom j2 := by
  simp only [j2, JsonText.Dom, JsonText.DomList, JsonText.DomPairs, JsonText.KeysSorted, JsonText.StrOk]
  decide

/-- the closed environment: the codecs and the Lean `json` (`json.loads(bytes)` raises) -/
def kenv : Env := Codecs.env JsonText.dumps JsonText.loads (fun _ => .err)

/-- a UTF-16 (BOM) main preamble indented by 2, CRLF detected on its first line; main metadata `kj`
(non-ASCII value with a lone surrogate, nested list and dict) under the constructor's UTF-8; a
Latin-1 change with a preamble declared `dos` and metadata with an escaped non-ASCII value; a file
with its own encoding `utf-16` whose metadata inherits it (BOM written); a diff whose CRLF is
detected on the bytes; a second file inheriting Latin-1, with UTF-16-BE metadata and a UTF-16 diff
declared `unix` -/
def kprog : List Writer.Call :=
  [.preamble (.str t!"héllo 😀\r\nwörld") (some t!"utf-16") (some 2) none (some t!"text/plain"),
   .metadata (.dict kj) none t!"json",
   .newChange (some t!"latin1"),
   .preamble (.str t!"ça\nva") none none (some t!"dos") none,
   .metadata (.dict j2) none t!"json",
   .newFile (some t!"utf-16"),
   .metadata (.dict jk) none t!"json",
   .diff (.bytes b!"-a\r\n+b") (some t!"text") none none,
   .newFile none,
   .metadata (.dict jk) (some t!"utf-16-be") t!"json",
   .diff (.bytes [45, 0, 120, 0, 10, 0, 43, 0, 121, 0, 10, 0]) none (some t!"utf-16") (some t!"unix")]

/-- the 824 bytes the writer produces: the metadata text is what `JsonText.dumps` prints
(`ensure_ascii`: `\u00e9\ud800`; `indent=4` at three levels) -/
def kbytes : Bytes :=
  b!"#diffx: encoding=utf-8, version=1.0\n#.preamble: encoding=utf-16, indent=2, length=40, line_endings=dos, mimetype=text/plain\n  " ++
  [255, 254, 104, 0, 233, 0, 108, 0, 108, 0, 111, 0, 32, 0, 61, 216, 0, 222, 13, 0, 10, 0] ++ b!"  " ++
  [119, 0, 246, 0, 114, 0, 108, 0, 100, 0, 13, 0, 10, 0] ++
  b!"#.meta: format=json, length=150\n{\n    \"k\": \"\\u00e9\\ud800\",\n    \"list\": [\n        1,\n        1.5,\n        null,\n        {\n            \"a\": true,\n            \"b\": -7\n        }\n    ]\n}\n" ++
  b!"#.change: encoding=latin1\n#..preamble: length=7, line_endings=dos\n" ++ [231] ++ b!"a\nva\r\n" ++
  b!"#..meta: format=json, length=67\n{\n    \"a\": \"\\u00e9\",\n    \"b\": [\n        null,\n        true\n    ]\n}\n" ++
  b!"#..file: encoding=utf-16\n#...meta: format=json, length=32\n" ++
  [255, 254, 123, 0, 10, 0, 32, 0, 32, 0, 32, 0, 32, 0, 34, 0, 107, 0, 34, 0, 58, 0, 32, 0, 49, 0, 10, 0, 125, 0, 10, 0] ++
  b!"#...diff: length=8, line_endings=dos, type=text\n-a\r\n+b\r\n" ++
  b!"#..file:\n#...meta: encoding=utf-16-be, format=json, length=30\n" ++
  [0, 123, 0, 10, 0, 32, 0, 32, 0, 32, 0, 32, 0, 34, 0, 107, 0, 34, 0, 58, 0, 32, 0, 49, 0, 10, 0, 125, 0, 10] ++
  b!"#...diff: encoding=utf-16, length=12, line_endings=unix\n" ++ [45, 0, 120, 0, 10, 0, 43, 0, 121, 0, 10, 0]

/-- all three from one run of the writer in the kernel -/
theorem kprog_accepted : (Writer.run kenv Codecs.cfg (some t!"utf-8") t!"1.0" kprog).1.out = kbytes ∧
    (∀ r ∈ (Writer.run kenv Codecs.cfg (some t!"utf-8") t!"1.0" kprog).2, r = .ok) ∧ kbytes.length = 824 := by
  decide +kernel

theorem kprog_dicts : DictArgs kprog := by decide

theorem kprog_dom : DictsIn JsonText.Dom kprog := by
  refine (dictsIn_iff _ _).mpr ?_
  simp [kprog, dictArgIn, kj_dom, jk_dom, j2_dom]

def kcontents : List Reader.Content :=
  [.container,
   .text t!"héllo 😀\r\nwörld\r\n",
   .metadata kj,
   .container,
   .text t!"ça\nva\r\n",
   .metadata j2,
   .container,
   .metadata jk,
   .diff b!"-a\r\n+b\r\n",
   .container,
   .metadata jk,
   .diff [45, 0, 120, 0, 10, 0, 43, 0, 121, 0, 10, 0]]

theorem kcontents_eq : .container :: kprog.map contentOfCall = kcontents := by rfl
theorem ksecs_eq : SecId.main :: secIds 1 kprog = msecs := by rfl

/-- **`C01_run_closed` instantiated** (block size 7, `json.loads(bytes)` raising): with the Lean
`json.dumps` / `json.loads` — no mock, no hypothesis about the environment — the writer accepts
the eleven calls and writes the 824 bytes `kbytes`, on which the reader ends normally with twelve
records whose contents and section ids are the explicit lists (`kcontents`; `msecs` of
C01Concrete). -/
theorem C01_run_closed_instance :
    (Writer.run kenv Codecs.cfg (some t!"utf-8") t!"1.0" kprog).1.out = kbytes ∧
    ∃ recs, Reader.readAll kenv Codecs.cfg 7 kbytes = (recs, .done) ∧
      recs.length = 12 ∧ recs.map (·.content) = kcontents ∧ recs.map (·.sec) = msecs := by
  obtain ⟨hb, hok, hlen⟩ := kprog_accepted
  refine ⟨hb, ?_⟩
  have hsz : (Writer.run kenv Codecs.cfg (some t!"utf-8") t!"1.0" kprog).1.out.length ≤ Reader.maxRead := by
    rw [hb, hlen]
    decide
  unfold kenv at hb hok hsz ⊢
  obtain ⟨recs, h1, h2, h3, h4⟩ := C01_run_closed (fun _ => .err) 7 (by decide) t!"utf-8" kprog hok kprog_dicts
    kprog_dom hsz
  rw [hb] at h1
  exact ⟨recs, h1, h2, by rw [h3, kcontents_eq], by rw [h4, ksecs_eq]⟩

set_option maxRecDepth 65536 in
/-- … true by evaluation as well -/
example :
    ((Reader.readAll kenv Codecs.cfg 7 kbytes).1.map (·.content) == kcontents) = true ∧
    (Reader.readAll kenv Codecs.cfg 7 kbytes).1.map (·.sec) = msecs ∧
    (Reader.readAll kenv Codecs.cfg 7 kbytes).2 = .done := by
  decide +kernel

end Diffx.C01

namespace Diffx.C05
open Diffx Diffx.Dom Diffx.DomRT Diffx.DomConc Diffx.Codecs Diffx.C01

variable (lb : Bytes → EnvR Json)

/-- **C05, closed.**  For every tree whose sections sit in their slots and whose metadata
dictionaries present Python objects, that serialises: parsing the serialisation gives the
normalised tree (a function of the tree alone). -/
theorem C05_tree_roundtrip_closed (wv : Text) (t : Tree) (b : Bytes)
    (hk : TreeOk t) (hd : TreeDicts t) (hin : TreeDictsIn JsonText.Dom t)
    (h : toBytes (Codecs.env JsonText.dumps JsonText.loads lb) Codecs.cfg wv t = .ok b)
    (enc : Name) (calls : List Writer.Call)
    (hcalls : toCalls Codecs.cfg.defaultIndent t wv = .ok (some enc, Text.ofAscii b!"1.0", calls))
    (hsize : b.length ≤ Reader.maxRead) :
    fromBytes (Codecs.env JsonText.dumps JsonText.loads lb) Codecs.cfg wv b =
      .ok (normalisedTree Codecs.cfg.defaultIndent t) :=
  C05_tree_roundtrip_concrete JsonText.dumps JsonText.loads lb jsonLaws_closed wv t b hk hd hin h enc calls hcalls hsize

/-- **C06, closed.**  … and serialising the normalised tree gives the same bytes. -/
theorem C06_fixed_point_closed (wv : Text) (t : Tree) (b : Bytes)
    (hk : TreeOk t) (hd : TreeDicts t) (hin : TreeDictsIn JsonText.Dom t)
    (h : toBytes (Codecs.env JsonText.dumps JsonText.loads lb) Codecs.cfg wv t = .ok b)
    (enc : Name) (calls : List Writer.Call)
    (hcalls : toCalls Codecs.cfg.defaultIndent t wv = .ok (some enc, Text.ofAscii b!"1.0", calls))
    (hsize : b.length ≤ Reader.maxRead) :
    toBytes (Codecs.env JsonText.dumps JsonText.loads lb) Codecs.cfg wv (normalisedTree Codecs.cfg.defaultIndent t) = .ok b :=
  C06_fixed_point_concrete JsonText.dumps JsonText.loads lb jsonLaws_closed wv t b hk hd hin h enc calls hcalls hsize

/-- `ctree` of C05Concrete with a main metadata section holding `kj` (no `format` key) -/
def ktree : Tree := { ctree with metaSec := ⟨.metadata, [], .dict kj⟩ }

theorem ktree_ok : TreeOk ktree := by decide
theorem ktree_dicts : TreeDicts ktree := by decide

/-- `hin` of the closed tree theorems (the empty dicts of skipped sections included) -/
theorem ktree_dom : TreeDictsIn JsonText.Dom ktree := by
  simp [TreeDictsIn, changeDictsIn, fileDictsIn, secDictIn, ktree, ctree, newMeta, kj_dom, jk_dom, j2_dom,
    JsonText.Dom, JsonText.KeysSorted, JsonText.DomPairs]

/-- the 873 bytes `to_bytes` produces with the Lean `json` -/
def ktreeBytes : Bytes :=
  b!"#diffx: encoding=utf-8, version=1.0\n#.preamble: encoding=utf-16, indent=2, length=40, line_endings=dos, mimetype=text/plain\n  " ++
  [255, 254, 104, 0, 233, 0, 108, 0, 108, 0, 111, 0, 32, 0, 61, 216, 0, 222, 13, 0, 10, 0] ++ b!"  " ++
  [119, 0, 246, 0, 114, 0, 108, 0, 100, 0, 13, 0, 10, 0] ++
  b!"#.meta: format=json, length=150\n{\n    \"k\": \"\\u00e9\\ud800\",\n    \"list\": [\n        1,\n        1.5,\n        null,\n        {\n            \"a\": true,\n            \"b\": -7\n        }\n    ]\n}\n" ++
  b!"#.change: encoding=latin1\n#..preamble: length=7, line_endings=dos\n" ++ [231] ++ b!"a\nva\r\n" ++
  b!"#..meta: format=json, length=67\n{\n    \"a\": \"\\u00e9\",\n    \"b\": [\n        null,\n        true\n    ]\n}\n" ++
  b!"#..file:\n#...meta: encoding=utf-16-be, format=json, length=30\n" ++
  [0, 123, 0, 10, 0, 32, 0, 32, 0, 32, 0, 32, 0, 34, 0, 107, 0, 34, 0, 58, 0, 32, 0, 49, 0, 10, 0, 125, 0, 10] ++
  b!"#...diff: length=8, line_endings=dos, type=text\n-a\r\n+b\r\n" ++
  b!"#..file: encoding=utf-8\n#...meta: format=json, length=15\n{\n    \"k\": 1\n}\n" ++
  b!"#...diff: encoding=utf-16, length=12, line_endings=unix\n" ++ [45, 0, 120, 0, 10, 0, 43, 0, 121, 0, 10, 0] ++
  b!"#.change:\n#..preamble: indent=4, length=6, line_endings=unix\n    x\n"

theorem ktree_bytes : toBytes kenv Codecs.cfg cver ktree = .ok ktreeBytes :=
  Except.eq_ok_of_toOption (by decide +kernel)

theorem ktreeBytes_length : ktreeBytes.length = 873 := by decide +kernel

def kcalls : List Writer.Call :=
  [.preamble (.str t!"héllo 😀\r\nwörld") (some t!"utf-16") (some 2) none (some t!"text/plain"),
   .metadata (.dict kj) none t!"json",
   .newChange (some t!"latin1"),
   .preamble (.str t!"ça\nva") none none (some t!"dos") none,
   .metadata (.dict j2) none t!"json",
   .newFile none,
   .metadata (.dict jk) (some t!"utf-16-be") t!"json",
   .diff (.bytes b!"-a\r\n+b") (some t!"text") none none,
   .newFile (some t!"utf-8"),
   .metadata (.dict jk) none t!"json",
   .diff (.bytes [45, 0, 120, 0, 10, 0, 43, 0, 121, 0]) none (some t!"utf-16") (some t!"unix"),
   .newChange none,
   .preamble (.str t!"x") none (some 4) none none]

/-- the program `write_stream` runs for the tree -/
theorem ktree_calls :
    toCalls Codecs.cfg.defaultIndent ktree cver = .ok (some t!"utf-8", Text.ofAscii b!"1.0", kcalls) := by rfl

/-- the normalised tree: `cloaded` with the main metadata section, `format=json` recorded -/
def kloaded : Tree := { cloaded with metaSec := ⟨.metadata, [(b!"format", .str t!"json")], .dict kj⟩ }

theorem knormalised_eq : normalisedTree Codecs.cfg.defaultIndent ktree = kloaded := by rfl

/-- **`C05_tree_roundtrip_closed` instantiated**: parsing the 873 bytes with the Lean `json` gives
the normalised tree, written out -/
theorem C05_closed_instance : fromBytes kenv Codecs.cfg cver ktreeBytes = .ok kloaded := by
  have hsz : ktreeBytes.length ≤ Reader.maxRead := by rw [ktreeBytes_length]; decide
  rw [← knormalised_eq]
  exact C05_tree_roundtrip_closed (fun _ => .err) cver ktree ktreeBytes ktree_ok ktree_dicts ktree_dom ktree_bytes
    t!"utf-8" kcalls ktree_calls hsz

/-- **`C06_fixed_point_closed` instantiated**: the loaded tree serialises to the same bytes -/
theorem C06_closed_instance : toBytes kenv Codecs.cfg cver kloaded = .ok ktreeBytes := by
  have hsz : ktreeBytes.length ≤ Reader.maxRead := by rw [ktreeBytes_length]; decide
  rw [← knormalised_eq]
  exact C06_fixed_point_closed (fun _ => .err) cver ktree ktreeBytes ktree_ok ktree_dicts ktree_dom ktree_bytes
    t!"utf-8" kcalls ktree_calls hsz

set_option maxRecDepth 65536 in
/-- … closed equations that are true by evaluation as well -/
example : fromBytes kenv Codecs.cfg cver ktreeBytes = .ok kloaded := by rfl

set_option maxRecDepth 65536 in
example : (toBytes kenv Codecs.cfg cver kloaded).toOption = some ktreeBytes := by decide +kernel

end Diffx.C05
