import DiffxVerif.Lemmas.Encoding
import DiffxVerif.Lemmas.Order
/-!
# C04 — Encoding inheritance follows nesting: nearest ancestor wins, siblings never leak

> The encoding used to encode (writer) or decode (reader) a preamble or metadata
> section is its own encoding option if present, otherwise that of the nearest
> enclosing file, change or main section that declares one; an encoding declared
> on one change or file never affects a later sibling change or file; diff
> sections never inherit an encoding. Reader and writer agree on this for every
> nesting history.

`Reader.pushEnc` / `Writer.pushFrame` are the stack updates the two models (and
the code) perform for every container header; `Spec.openDecls` / `Spec.nearest`
(Spec/Encoding.lean) is the specification in terms of declarations.  The
theorems quantify over **every** properly nested sequence of container headers
of any length, each declaring or omitting an encoding.
-/
namespace Diffx.C04
open Diffx

/-- a container header as the reader sees it: its id and its own `encoding` option -/
abbrev RHdr := SecId × Option OptVal

/-- the reader's `(encodings, prev_container_level)` after the container headers `cs` -/
def readerStack (cs : List RHdr) : List (Option OptVal) × Nat :=
  cs.foldl (fun s c => (Reader.pushEnc s.1 s.2 c.1 c.2, c.1.level)) ([none], 0)

/-- container headers of a file: the main header first, then changes (level 1)
and files (level 2), properly nested -/
def WellNested (cs : List RHdr) : Prop :=
  ∃ m rest, cs = (SecId.main, m) :: rest ∧
    (∀ c ∈ rest, c.1 = SecId.change ∨ c.1 = SecId.file) ∧
    Spec.Nested [] (cs.map fun c => (c.1.level, c.2))

/-- the whole stack: one inherited value per open container (below a `None` sentinel) -/
theorem C04_reader_stack (cs : List RHdr) (h : WellNested cs) :
    let anc := Spec.openDecls (cs.map fun c => (c.1.level, c.2))
    (readerStack cs).1 = none :: (List.range anc.length).map (fun i => Spec.nearest (anc.take (i + 1))) := by
  obtain ⟨m, rest, rfl, hrest, hn⟩ := h
  simp only [List.map_cons, Spec.Nested] at hn
  have h0 : Reader.pushEnc [none] 0 SecId.main m = Spec.inhStack none [m] := by
    cases m <;> rfl
  have := Reader.foldl_encStep [m] rest (by simp) hrest (by simpa [Spec.openStep, SecId.main] using hn.2)
  simp only [readerStack, List.foldl_cons, h0, List.map_cons, Spec.openDecls_cons]
  exact this

/-- **Reader.** After any properly nested sequence of container headers the
top of the reader's encoding stack — the encoding used for the next preamble or
metadata section that declares none — is the nearest enclosing declaration. -/
theorem C04_reader (cs : List RHdr) (h : WellNested cs) :
    Reader.topEnc (readerStack cs).1 = Spec.nearest (Spec.openDecls (cs.map fun c => (c.1.level, c.2))) := by
  rw [C04_reader_stack cs h]
  exact Spec.inhStack_getLast none _ (Or.inr rfl)

/-- own option wins, otherwise the top of the stack: what `stepSection` passes to
`readContent` for a preamble / metadata section -/
theorem C04_own_wins (own : Option OptVal) (encs : List (Option OptVal)) :
    (match own with | some v => some v | none => Reader.topEnc encs) =
      Spec.nearest [Reader.topEnc encs, own] := by
  cases own <;> cases Reader.topEnc encs <;> rfl

/-- a writer container call: `new_change` (level 2 in the writer's numbering) or
`new_file` (level 3) with its `encoding` argument -/
abbrev WCall := Nat × Option Name

/-- the writer's `_stack` after construction with `enc` and the container calls `cs` -/
def writerStack (enc : Option Name) (cs : List WCall) : List (Option Name) :=
  cs.foldl (fun s c => Writer.pushFrame s c.1 c.2) (Writer.pushFrame [enc] 1 enc)

/-- what a call declares: a falsy `encoding` argument (`None`, `''`) declares nothing
(the same function as `Writer.declared` of `Lemmas/Encoding.lean`) -/
def declared (e : Option Name) : Option Name := if Writer.truthy e then e else none

/-- **Writer.** After construction and any properly nested sequence of
`new_change` / `new_file` calls, `_cur_encoding` is the nearest enclosing
declaration.  (`he`: the constructor argument is `None` or a non-empty name.
The bottom frame holds the constructor argument itself, so a falsy non-`None`
argument `''` stays on the stack as `''` although it declares nothing; see the
counterexample at the end of the file.) -/
theorem C04_writer (enc : Option Name) (cs : List WCall)
    (he : enc = none ∨ Writer.truthy enc = true)
    (hl : ∀ c ∈ cs, c.1 = 2 ∨ c.1 = 3)
    (hn : Spec.Nested [declared enc] (cs.map fun c => (c.1 - 1, declared c.2))) :
    ((writerStack enc cs).getLast?).getD none =
      Spec.nearest (Spec.openDecls ((0, declared enc) :: cs.map fun c => (c.1 - 1, declared c.2))) := by
  have hd : declared enc = enc := by
    rcases he with h | h
    · subst h; rfl
    · simp [declared, h]
  have h0 : Writer.pushFrame [enc] 1 enc = Spec.inhStack enc [declared enc] := by
    rw [hd]
    simp [Writer.pushFrame, Spec.inhStack, Spec.nearest]
  rw [writerStack, h0, Writer.foldl_pushFrame enc _ cs hl hn, Spec.openDecls_cons]
  exact Spec.inhStack_getLast enc _ (Or.inl (Spec.foldl_openStep_ne_nil _ _ (by simp)))

/-- **Writer, unrestricted.** `he` of `C04_writer` is implied by the constructor call being
accepted: `DiffXWriter(fp, encoding='')` is refused (`DiffXOptionValueError`: the empty
string is not an option value), so every constructed writer was given `None` or a non-empty
name.  For every writer that exists, after any properly nested sequence of `new_change` /
`new_file` calls `_cur_encoding` is the nearest enclosing declaration. -/
theorem C04_writer_accepted (enc : Option Name) (ver : Text) (cs : List WCall)
    (hi : (Writer.init enc ver).2 = .ok)
    (hl : ∀ c ∈ cs, c.1 = 2 ∨ c.1 = 3)
    (hn : Spec.Nested [declared enc] (cs.map fun c => (c.1 - 1, declared c.2))) :
    ((writerStack enc cs).getLast?).getD none =
      Spec.nearest (Spec.openDecls ((0, declared enc) :: cs.map fun c => (c.1 - 1, declared c.2))) :=
  C04_writer enc cs (Writer.init_ok_truthy hi) hl hn

/-- `writerStack enc []` is the `_stack` of the writer the constructor leaves behind -/
theorem C04_init_stack (enc : Option Name) (ver : Text) (hi : (Writer.init enc ver).2 = .ok) :
    (Writer.init enc ver).1.stack = writerStack enc [] := by
  obtain ⟨b, _, h⟩ := Writer.init_ok_inv hi
  rw [h]
  rfl

/-- **Siblings never leak.** Whatever was declared inside earlier changes and
files, right after a new change header that declares nothing the effective
encoding is the main section's declaration; after a new file header that
declares nothing it is the current change's or else the main section's. -/
theorem C04_sibling_change (m : Option OptVal) (rest : List RHdr) (h : WellNested ((SecId.main, m) :: rest)) :
    Reader.topEnc (readerStack ((SecId.main, m) :: rest ++ [(SecId.change, none)])).1 = m := by
  obtain ⟨_, _, heq, hrest, hn⟩ := h
  cases heq
  have hlev : ∀ c ∈ rest.map (fun c : SecId × Option OptVal => (c.1.level, c.2)), 1 ≤ c.1 := by
    intro c hc
    obtain ⟨d, hd, rfl⟩ := List.mem_map.mp hc
    rcases hrest d hd with h | h <;> simp [h, SecId.change, SecId.file]
  obtain ⟨t, ht⟩ := Spec.foldl_openStep_head m [] _ hlev
  -- the main section's declaration is still the outermost one after `rest`
  have hd : Spec.openDecls (((SecId.main, m) :: rest).map fun c => (c.1.level, c.2)) = m :: t := by
    rw [← ht]
    simp [Spec.openDecls, Spec.openStep, SecId.main]
  have hwn : WellNested ((SecId.main, m) :: rest ++ [(SecId.change, none)]) := by
    refine ⟨m, rest ++ [(SecId.change, none)], rfl, ?_, ?_⟩
    · intro c hc
      rcases List.mem_append.mp hc with hc | hc
      · exact hrest c hc
      · rw [List.mem_singleton.mp hc]
        exact .inl rfl
    · rw [List.map_append, Spec.nested_append]
      refine ⟨hn, ?_⟩
      show Spec.Nested (Spec.openDecls _) _
      rw [hd]
      simp [Spec.Nested, SecId.change]
  rw [C04_reader _ hwn, List.map_append, Spec.openDecls_append, hd]
  simp only [List.map_cons, List.map_nil, List.foldl_cons, List.foldl_nil, Spec.openStep, SecId.change,
    List.take_succ_cons, List.take_zero]
  cases m <;> rfl

/-- the specification is insensitive to how declarations are represented:
reader (option values) and writer (codec names) compute corresponding results
for corresponding declarations -/
theorem C04_agree {α β : Type} (f : α → β) (cs : List (Nat × Option α)) :
    Spec.nearest (Spec.openDecls (cs.map fun c => (c.1, c.2.map f))) =
      (Spec.nearest (Spec.openDecls cs)).map f := by
  have := Spec.foldl_openStep_map f cs []
  simp only [List.map_nil] at this
  rw [Spec.openDecls, this, Spec.nearest_map_list]
  rfl

/-- **Diff sections never inherit** (reader): the encoding handed to
`_read_content` for a `...diff` section is its own option, whatever the stack
holds; for every other content section it is the own option or else the top. -/
theorem C04_diff_reader (opts : Opts) (encodings : List (Option OptVal)) :
    Reader.contentEncoding SecId.fileDiff opts encodings = opts.get b!"encoding" := by
  simp [Reader.contentEncoding]

theorem C04_content_reader (sec : SecId) (hs : sec ≠ SecId.fileDiff) (opts : Opts)
    (encodings : List (Option OptVal)) :
    Reader.contentEncoding sec opts encodings =
      Spec.nearest [Reader.topEnc encodings, opts.get b!"encoding"] := by
  simp only [Reader.contentEncoding, hs, if_false, Spec.nearest]
  cases opts.get b!"encoding" <;> cases Reader.topEnc encodings <;> rfl

/-- **Diff sections never inherit** (writer): with `inherit_encoding=False`
(`write_diff`) the prepared content does not depend on the writer's stack. -/
theorem C04_diff_writer (env : Env) (cfg : Config) (st st' : Writer.St) (content : Writer.Arg)
    (indent : Option Int) (le : Option Text) (enc : Option Name) :
    Writer.prepareContent env cfg st content indent le enc false =
      Writer.prepareContent env cfg st' content indent le enc false := by
  simp only [Writer.prepareContent_shape, Writer.effEncoding, Bool.and_false, Bool.false_eq_true, if_false]

/-! ### non-vacuity / the historical defect (tests) -/

/-- main utf-8; change declares utf-16; file; NEW change declares nothing: utf-8 again.
(Before the repair the reader popped only one level here and answered utf-16.) -/
example :
    Reader.topEnc (readerStack [(SecId.main, some (.str b!"utf-8")), (SecId.change, some (.str b!"utf-16")),
      (SecId.file, none), (SecId.change, none)]).1 = some (.str b!"utf-8") := by decide +kernel

example : WellNested [(SecId.main, some (.str b!"utf-8")), (SecId.change, some (.str b!"utf-16")),
      (SecId.file, none), (SecId.change, none)] :=
  ⟨_, _, rfl, by decide +kernel, by simp [Spec.Nested, Spec.openStep, SecId.main, SecId.change, SecId.file]⟩

/-- `he` in `C04_writer` is necessary: constructed with `encoding=''` the stack is
`['', '']`, so `_cur_encoding` is `''`, not `None` as the specification says. -/
example : ((writerStack (some []) []).getLast?).getD none ≠
    Spec.nearest (Spec.openDecls ((0, declared (some [])) :: ([] : List WCall).map fun c => (c.1 - 1, declared c.2))) := by
  decide +kernel

/-- … but no such writer exists: the constructor refuses `encoding=''` and leaves
nothing written (`C04_writer_accepted` therefore needs no such hypothesis) -/
example : (Writer.init (some []) (Text.ofAscii b!"1.0")).2 = .optionError ∧
    (Writer.init (some []) (Text.ofAscii b!"1.0")).1.out = [] := by decide +kernel

end Diffx.C04
