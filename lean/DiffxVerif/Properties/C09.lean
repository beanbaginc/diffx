import DiffxVerif.Lemmas.Order
/-!
# C09 — Writer enforces section order; rejected calls are atomic; output is append-only

> For every sequence of writer calls, a call is accepted exactly when the section
> it would write may follow the previously written section under the
> specification's hierarchy (preamble, then metadata, then changes; per change
> preamble, metadata, then files; per file metadata then optional diff). A
> rejected call (wrong order, wrong content type, empty content, invalid option
> value, unencodable text) raises, writes not a single byte and leaves the writer
> able to continue exactly as if the call had not been made; accepted calls only
> ever append.

`Writer.step env cfg st c` (Model/Writer.lean) is one public method call; its
monad keeps the state reached when an exception is raised, so atomicity is a
theorem about the order of effects in the model, not a convention.  All
statements hold for every environment, every writer state and every call.
-/
namespace Diffx.C09
open Diffx Diffx.Writer

/-- the section a call writes when the writer is in state `st` (the same function as `Writer.secOf`, which is
how the lemmas about that one apply to the statements below) -/
def sectionOf (st : St) : Call → SecId
  | .newChange _ => ⟨1, .change⟩
  | .newFile _ => ⟨2, .file⟩
  | .preamble .. => ⟨st.level, .preamble⟩
  | .metadata .. => ⟨st.level, .metadata⟩
  | .diff .. => ⟨st.level, .diff⟩

/-- state after a sequence of calls (results discarded); the same function as `RunRT.runFrom` -/
def runFrom (env : Env) (cfg : Config) (st : St) (cs : List Call) : St :=
  cs.foldl (fun s c => (step env cfg s c).1) st

/-- **Atomic rejection.** A call that does not succeed — whatever the reason —
leaves the stream, the section stack and the previous-section marker exactly as
they were. -/
theorem C09_atomic (env : Env) (cfg : Config) (st : St) (c : Call) :
    (step env cfg st c).2 ≠ .ok → (step env cfg st c).1 = st :=
  step_atomic env cfg st c

/-- **Append-only.** An accepted call appends a non-empty block of bytes and
changes nothing that was written before. -/
theorem C09_append (env : Env) (cfg : Config) (st : St) (c : Call) :
    (step env cfg st c).2 = .ok → ∃ b, b ≠ [] ∧ (step env cfg st c).1.out = st.out ++ b := by
  intro h
  obtain ⟨b, hb, _, _, _, he⟩ := step_accepted h
  exact ⟨b, hb, by rw [he]⟩

/-- the stream only ever grows over any call sequence -/
theorem C09_prefix (env : Env) (cfg : Config) (st : St) (cs : List Call) :
    st.out <+: (runFrom env cfg st cs).out :=
  RunRT.runFrom_prefix st cs

/-- **Accepted ⇒ in order.** An accepted call wrote a section that may follow
the previously written one in the specification's hierarchy. -/
theorem C09_accepted_in_order (env : Env) (cfg : Config) (st : St) (c : Call) (p : SecId)
    (hp : st.prev = some p) (h : (step env cfg st c).2 = .ok) :
    sectionOf st c ∈ Spec.next p ∧ (step env cfg st c).1.prev = some (sectionOf st c) := by
  obtain ⟨b, _, _, hv, _, he⟩ := step_accepted h
  exact ⟨validNext_iff_spec.1 ((validate_ok_iff _ _).1 hv p hp), by rw [he]; rfl⟩

/-- **Out of order ⇒ rejected** (contrapositive, stated for emphasis) -/
theorem C09_out_of_order_rejected (env : Env) (cfg : Config) (st : St) (c : Call) (p : SecId)
    (hp : st.prev = some p) (h : sectionOf st c ∉ Spec.next p) :
    (step env cfg st c).2 ≠ .ok :=
  fun hok => h (C09_accepted_in_order env cfg st c p hp hok).1

/-- the order error is raised only for calls that really are out of order -/
theorem C09_order_error_sound (env : Env) (cfg : Config) (st : St) (c : Call)
    (h : (step env cfg st c).2 = .orderError) :
    ∃ p, st.prev = some p ∧ sectionOf st c ∉ Spec.next p := by
  rcases step_cases env cfg st c with ⟨e, he, hs⟩ | ⟨p, hp, hn, _⟩ | ⟨_, _, _, _, _, hs⟩
  · rw [hs] at h
    exact absurd h he.2
  · exact ⟨p, hp, fun hm => hn (validNext_iff_spec.2 hm)⟩
  · rw [hs] at h
    cases h

/-- **In order and valid arguments ⇒ accepted.** "Valid arguments" is expressed
without restating the code: the same call is accepted by the same writer when
order checking is switched off (`prev := none`). -/
theorem C09_accept (env : Env) (cfg : Config) (st : St) (c : Call) (p : SecId)
    (hp : st.prev = some p) (ho : sectionOf st c ∈ Spec.next p)
    (ha : (step env cfg { st with prev := none } c).2 = .ok) :
    (step env cfg st c).2 = .ok := by
  obtain ⟨b, _, hpre, _, hpl, _⟩ := step_accepted ha
  rw [payload_prev_none] at hpl
  have hv : validate st (secOf st c) = .ok () :=
    (validate_ok_iff _ _).2 fun q hq => by
      rw [hp] at hq
      cases hq
      exact validNext_iff_spec.2 ho
  rw [step_eq, hpre, hv, hpl]

/-- **As if the call had not been made.** Dropping a rejected call from a call
sequence changes nothing afterwards. -/
theorem C09_rejected_noop (env : Env) (cfg : Config) (st : St) (c : Call) (cs : List Call)
    (h : (step env cfg st c).2 ≠ .ok) :
    runFrom env cfg st (c :: cs) = runFrom env cfg st cs := by
  simp [runFrom, C09_atomic env cfg st c h]

/-- the stack depth always matches the previously written section, for every
state reachable from a constructed writer: the level used to build section ids
is the hierarchy's nesting level -/
theorem C09_level_invariant (env : Env) (cfg : Config) (enc : Option Name) (ver : Text) (cs : List Call)
    (hi : (init enc ver).2 = .ok) :
    let st := runFrom env cfg (init enc ver).1 cs
    ∃ p, st.prev = some p ∧ st.stack.length = (if p.name = .diffx ∨ p.name = .change ∨ p.name = .file
                                                then p.level else p.level - 1) + 2 := by
  have key : ∀ (cs : List Call) (st : St), LevelInv st → LevelInv (runFrom env cfg st cs) := by
    intro cs
    induction cs with
    | nil => exact fun st h => h
    | cons c cs ih => exact fun st h => ih _ (step_levelInv env cfg st c h)
  exact key cs _ (init_levelInv enc ver hi)

/-- **a negative preamble indent is rejected** (`DiffXOptionValueError`) **and nothing is
written**: the call does not succeed and leaves the stream, the section stack and the
previous-section marker as they were — whatever the writer state, the text argument and the
other options are -/
theorem C09_negative_indent_rejected (env : Env) (cfg : Config) (st : St) (text : Arg)
    (enc : Option Name) (n : Int) (hn : n < 0) (le : Option Text) (mime : Option Text) :
    (step env cfg st (.preamble text enc (some n) le mime)).2 ≠ .ok ∧
    (step env cfg st (.preamble text enc (some n) le mime)).1 = st := by
  have he := pre_preamble_negative env text enc n hn le mime
  rw [step_pre_error cfg st he]
  exact ⟨(pre_benign he).1, rfl⟩

/-- the exact outcome when the text is a `str`: `DiffXOptionValueError` (raised for the
indent, or — the mimetype being checked first — already for an invalid mimetype, which is the
same exception class), in every writer state, before the order check, and the writer is
unchanged -/
theorem C09_negative_indent_optionError (env : Env) (cfg : Config) (st : St) (t : Text)
    (enc : Option Name) (n : Int) (hn : n < 0) (le : Option Text) (mime : Option Text) :
    step env cfg st (.preamble (.str t) enc (some n) le mime) = (st, .optionError) :=
  step_pre_error cfg st (pre_preamble_negative env (.str t) enc n hn le mime)

/-- every call that carries an unrepresentable name (`valueRefused`, Model/Writer.lean) as its own
`encoding=` argument (`write_preamble`, `write_meta`, `write_diff` included): not accepted, writer unchanged.
(For a content call the exception may be another one — e.g. the codec lookup fails first.) -/
theorem C09_unrepresentable_encoding_rejected (env : Env) (cfg : Config) (st : St) (c : Call) (n : Name)
    (hn : callEncoding c = some n) (hv : valueRefused (.str n) = true) :
    (step env cfg st c).2 ≠ .ok ∧ (step env cfg st c).1 = st := by
  have hne : (step env cfg st c).2 ≠ .ok := fun hok => by
    rw [step_ok_enc hn hok] at hv
    cases hv
  exact ⟨hne, step_atomic env cfg st c hne⟩

/-- **an unrepresentable `encoding=` value is rejected and nothing is written.**
`valueRefused (.str n)` (Model/Writer.lean): `n` is not made of option-value characters
(`''`, a space, `=`, `,`, non-ASCII, …) or is something `int()` accepts (`1252`, `1_0`, `-5`),
so a reader would not get the name back.  A `new_change` / `new_file` call with such a name does
not succeed and leaves the stream, the section stack and the previous-section marker as they
were; when the call is in order the outcome is exactly `DiffXOptionValueError`. -/
theorem C09_unrepresentable_value_rejected (env : Env) (cfg : Config) (st : St) (n : Name)
    (hv : valueRefused (.str n) = true) (c : Call)
    (hc : c = .newChange (some n) ∨ c = .newFile (some n)) :
    (step env cfg st c).2 ≠ .ok ∧ (step env cfg st c).1 = st ∧
    ((∀ p, st.prev = some p → sectionOf st c ∈ Spec.next p) → (step env cfg st c).2 = .optionError) := by
  have hn : callEncoding c = some n := by rcases hc with rfl | rfl <;> rfl
  obtain ⟨h1, h2⟩ := C09_unrepresentable_encoding_rejected env cfg st c n hn hv
  refine ⟨h1, h2, fun ho => ?_⟩
  rw [step_container_refused env cfg hc hv ho]

/-- a state in which `C09_accept`'s hypotheses are met -/
example : (init (some (Text.ofAscii b!"utf-8")) (Text.ofAscii b!"1.0")).2 = .ok := by decide +kernel

/-- a one-byte-per-code-point codec under every name (JSON functions unused) -/
def testEnv : Env :=
  { canon := fun n => .ok n,
    encode := fun _ t => .ok (t.map (·.toUInt8)),
    decode := fun _ b => .ok (b.map (·.toNat)),
    loadsText := fun _ => .ok (.obj []),
    loadsBytes := fun _ => .ok (.obj []),
    dumps := fun _ => .ok [] }
def testCfg : Config := { chunk := 96, boms := [], defaultIndent := 4, defaultEncoding := [] }

/-- `write_preamble('hi', indent=-1)` on a fresh writer: option error; the same call with
`indent=0` is accepted, so the rejection is due to the sign of the indent -/
example :
    (step testEnv testCfg (init (some (Text.ofAscii b!"utf-8")) (Text.ofAscii b!"1.0")).1
      (.preamble (.str (Text.ofAscii b!"hi")) none (some (-1)) none none)).2 = .optionError ∧
    (step testEnv testCfg (init (some (Text.ofAscii b!"utf-8")) (Text.ofAscii b!"1.0")).1
      (.preamble (.str (Text.ofAscii b!"hi")) none (some 0) none none)).2 = .ok := by
  decide +kernel

/-- refused values: a name `int()` accepts, the empty name, a space, `=`, `,`, non-ASCII;
and values that are not refused -/
example : valueRefused (.str (Text.ofAscii b!"1252")) = true ∧ valueRefused (.str (Text.ofAscii b!"1_0")) = true ∧
    valueRefused (.str (Text.ofAscii b!"-5")) = true ∧ valueRefused (.str []) = true ∧
    valueRefused (.str (Text.ofAscii b!"utf 8")) = true ∧ valueRefused (.str (Text.ofAscii b!"a=b")) = true ∧
    valueRefused (.str (Text.ofAscii b!"a,b")) = true ∧ valueRefused (.str [233]) = true ∧
    valueRefused (.str (Text.ofAscii b!"utf-8")) = false ∧ valueRefused (.str (Text.ofAscii b!"cp1252")) = false ∧
    valueRefused (.str (Text.ofAscii b!"1_")) = false ∧ valueRefused (.int (-3)) = false := by
  decide +kernel

/-- `new_change(encoding='1252')` on a fresh writer: option error; with `cp1252`: accepted -/
example :
    (step testEnv testCfg (init (some (Text.ofAscii b!"utf-8")) (Text.ofAscii b!"1.0")).1
      (.newChange (some (Text.ofAscii b!"1252")))).2 = .optionError ∧
    (step testEnv testCfg (init (some (Text.ofAscii b!"utf-8")) (Text.ofAscii b!"1.0")).1
      (.newChange (some (Text.ofAscii b!"cp1252")))).2 = .ok ∧
    (init (some (Text.ofAscii b!"1252")) (Text.ofAscii b!"1.0")).2 = .optionError ∧
    (init (some []) (Text.ofAscii b!"1.0")).2 = .optionError := by
  decide +kernel

end Diffx.C09
