import DiffxVerif.Lemmas.Hunks
/-!
# C14 — Unified-diff hunk parser reports exact hunk geometry or a positioned error

> For every sequence of lines made of well-formed unified-diff hunks (optionally
> separated by non-hunk lines when those are to be ignored), the parser returns
> one entry per hunk with the header's start lines and counts, the first and
> last changed line, changed-line counts and leading/trailing context that
> follow from the hunk body, correct totals, and the number of lines consumed;
> "\ No newline at end of file" markers never count.  A hunk that ends early,
> contains a line that is not context/insert/delete/marker, or is interrupted by
> another header raises MalformedHunkError naming that line; no other exception
> type escapes for any list of lines, including the empty list.

`Hunks.parse` is the model of `get_unified_diff_hunks` (Model/Hunks.lean);
`HunkSpec.Spec` describes a well-formed hunk declaratively (Spec/HunkSpec.lean).
-/
namespace Diffx.C14
open Diffx Diffx.Hunks Diffx.HunkSpec

/-- **Geometry, garbage tolerated.** Any number of well-formed hunks, each
preceded by any non-hunk lines, followed by any non-hunk lines: one entry per
hunk with the expected geometry, exact totals, every line consumed. -/
theorem C14_geometry (segs : List (List Bytes × Spec)) (tail : List Bytes)
    (hw : ∀ sg ∈ segs, sg.2.WF)
    (hg : ∀ sg ∈ segs, ∀ g ∈ sg.1, NonHunk g) (ht : ∀ g ∈ tail, NonHunk g) :
    parse (renderAll segs ++ tail) true =
      .ok { hunks := segs.map (·.2.expected)
            processed := (renderAll segs ++ tail).length
            deletes := totalDeletes segs
            inserts := totalInserts segs } := by
  have e := parse_of_run [] (run_closed (ig := true) (pre := tail) ⟨hw, .inl rfl, hg, ht⟩)
  rw [List.append_nil] at e
  exact e

/-- **Geometry, strict mode.** Consecutive well-formed hunks followed by
nothing or by a non-hunk line: parsing stops there; the lines consumed are
exactly those of the hunks. -/
theorem C14_strict (specs : List Spec) (tail : List Bytes)
    (hw : ∀ s ∈ specs, s.WF) (ht : ∀ g, tail.head? = some g → NonHunk g) :
    parse (specs.flatMap Spec.render ++ tail) false =
      .ok { hunks := specs.map Spec.expected
            processed := (specs.flatMap Spec.render).length
            deletes := (specs.map Spec.deletes).sum
            inserts := (specs.map Spec.inserts).sum } := by
  have h := run_closed (ig := false) (segs := specs.map fun s => ([], s)) (pre := [])
    ⟨by simpa using hw, .inr ⟨by simp, rfl⟩, by simp, by simp⟩
  rw [List.append_nil, renderAll_specs] at h
  rw [parse_of_run tail h, loopP_strict_tail rfl ht]
  simp [closed, totalDeletes, totalInserts, Function.comp_def]

/-- **Damage inside a hunk.** After any well-formed hunks (with tolerated
garbage when `ig`), a hunk whose body is interrupted, while still open, by a
line that is neither context/insert/delete/marker (`BadInHunk`) or by another
hunk header raises `MalformedHunkError` naming exactly that line and its
1-based position. -/
theorem C14_damage (ig : Bool) (segs : List (List Bytes × Spec)) (pre : List Bytes) (s : Spec) (k : Nat)
    (bad : Bytes) (rest : List Bytes)
    (hw : ∀ sg ∈ segs, sg.2.WF) (hs : s.WF)
    (hg : ig = true ∨ (∀ sg ∈ segs, sg.1 = []) ∧ pre = [])
    (hgn : ∀ sg ∈ segs, ∀ g ∈ sg.1, NonHunk g) (hpn : ∀ g ∈ pre, NonHunk g)
    (hopen : OpenAfter s k)
    (hbad : BadInHunk bad ∨ (startsWith bad [64, 64] = true ∧ (matchHeader bad).isSome = true)) :
    let before := renderAll segs ++ pre ++ (s.header :: (s.body.take k).map BLine.render)
    parse (before ++ bad :: rest) ig = .malformed (before.length + 1) bad .malformed := by
  intro before
  have h := run_before ⟨hw, hg, hgn, hpn⟩ hs hopen
  rw [parse_of_run (pre := before) _ h]
  simp only [loopP, step_bad hbad]

/-- **Premature end.** The input ends while a hunk is still open: the error
names the last line of the input. -/
theorem C14_short (ig : Bool) (segs : List (List Bytes × Spec)) (pre : List Bytes) (s : Spec) (k : Nat)
    (hw : ∀ sg ∈ segs, sg.2.WF) (hs : s.WF)
    (hg : ig = true ∨ (∀ sg ∈ segs, sg.1 = []) ∧ pre = [])
    (hgn : ∀ sg ∈ segs, ∀ g ∈ sg.1, NonHunk g) (hpn : ∀ g ∈ pre, NonHunk g)
    (hopen : OpenAfter s k) :
    let all := renderAll segs ++ pre ++ (s.header :: (s.body.take k).map BLine.render)
    parse all ig = .malformed all.length (all.getLast?.getD []) .prematureEnd := by
  intro all
  have e := parse_of_run [] (run_before ⟨hw, hg, hgn, hpn⟩ hs hopen)
  rw [List.append_nil] at e
  exact e

/-- **No other outcome, for any list of lines**: the parser returns a result or
raises `MalformedHunkError` whose 1-based line number designates a line of the
input and whose `line` is that very line.  (The model's outcome type has no
constructor for another exception; the correspondence check compares exception
classes on every run.) -/
theorem C14_total (lines : List Bytes) (ig : Bool) :
    (∃ r, parse lines ig = .ok r ∧ r.processed ≤ lines.length) ∨
    (∃ n l k, parse lines ig = .malformed n l k ∧ 1 ≤ n ∧ n ≤ lines.length ∧ lines[n - 1]? = some l) := by
  have h := loopP_located ig St.init 0 [] lines (fun _ => rfl)
  rw [parse, loop_eq]
  cases hl : loopP ig St.init 0 [] lines with
  | ok r => exact .inl ⟨r, rfl, by simpa [hl, Located] using h⟩
  | malformed m l k => exact .inr ⟨m, l, k, rfl, by simpa [hl, Located] using h⟩

/-- the empty list (the code raised `UnboundLocalError` before the repair) -/
theorem C14_empty (ig : Bool) : parse [] ig = .ok ⟨[], 0, 0, 0⟩ := by
  cases ig <;> rfl

/-- totals are the sums of the per-hunk changed-line counts, for every input -/
theorem C14_totals_consistent (lines : List Bytes) (ig : Bool) (r : Result) (h : parse lines ig = .ok r) :
    r.deletes = (r.hunks.map (·.orig.changed)).sum ∧ r.inserts = (r.hunks.map (·.modified.changed)).sum :=
  loopP_inv ig St.init 0 [] lines r (by simp [Hunks.Inv, St.init]) (loop_eq .. ▸ h)

/-! ### non-vacuity (tests, not the claim) -/

/-- a three-line hunk with a marker in the middle and payloads that look like
file headers; it is well formed … -/
def sample : Spec :=
  { os := b!"10", on := some b!"2", ms := b!"10", mn := some b!"2", context := some b!"def f():"
    body := [.ctx b!"a", .del b!"-- old", .marker b!"\\ No newline at end of file", .ins b!"++ new"] }

example : sample.WF := by
  refine ⟨by decide, by decide, ?_, ?_, by decide, by decide, ?_, ?_, ?_⟩
  · intro d h; cases h; decide
  · intro d h; cases h; decide
  · intro c h; cases h; decide
  · intro raw h
    simp [sample] at h
    subst h
    refine ⟨by decide, ?_⟩
    intro b hb; cases hb; decide
  · intro l h; cases h; decide

/-- … and the parser's result on it is the expected geometry -/
example : parse ([b!"--- a/f", b!"+++ b/f"] ++ sample.render ++ [b!"\\ No newline at end of file"]) true =
    .ok { hunks := [sample.expected], processed := 8, deletes := 1, inserts := 1 } := by decide

end Diffx.C14
