import DiffxVerif.Lemmas.DomConcrete
import DiffxVerif.Lemmas.Except
import DiffxVerif.Properties.C01Concrete
import DiffxVerif.Properties.C05Tree
/-!
# C05 / C06 (concrete codecs) — the object-model theorems with no hypothesis about codecs

> C05: For every object-model tree that serialises without error, serialising and parsing it
> yields a tree with the same changes and files in the same order and, section by section,
> the same content and options as the original after the documented normalisation only
> (final line ending appended to text/diff, detected line_endings recorded, default preamble
> indent and metadata format recorded, empty content sections omitted).
>
> C06: For every file the library itself can produce, parsing it into the object model and
> serialising it again returns the identical bytes.

`Properties/C05Tree.lean` proves both under hypotheses about the environment (`ProgramLaws`,
`ReLaws`), with a normalised tree `expectedTree … laws` that is *indexed by the laws*.
`Properties/C01Concrete.lean` derives `ProgramLaws` from acceptance for the executable codecs of `Model/Codecs.lean`.
This file composes the two and removes every law from the statements: for
`env := Codecs.env dumps loadsText loadsBytes`, `cfg := Codecs.cfg` (the BOM table of the repository),
`fromBytes (toBytes t) = .ok (normalisedTree 4 t)` (`C05_tree_roundtrip_concrete`), and
re-serialising that tree gives the identical bytes (`C06_fixed_point_concrete`; `ReLaws` is derived,
not assumed).

`normalisedTree di t` (Lemmas/DomConcrete.lean) is **a function of the tree alone**: no law, no
writer state, no environment, not even `contentCall`.  The law-indexed `expectedTree … laws` of
C05Tree *is* `normalisedTree`, whatever the laws (`C05_expectedTree_concrete`).  `C05_normalised_spec`,
`C05_normalised_sections`, `C05_normalised_options` spell the normalisation out; that it is
idempotent (`C05_normalised_idempotent`) stands for "after the documented normalisation *only*".

## Hypotheses that remain

* `JsonLaws Dom dumps loadsText` — three facts about `json.dumps` / `json.loads` on the dicts of a
  domain `Dom` (Lemmas/ConcreteRun.lean; for CPython `Dom` is `Json.Representable`,
  Model/JsonDom.lean); nothing about codecs;
* `TreeOk t` — every content section sits in the slot of its class (C05Tree);
* `TreeDicts t` — the content of a metadata section, when it is a `PyVal.dict j`, has `j` a JSON
  object.  `PyVal.dict` stands for a Python `dict`, but the type allows `.dict (.int 1)`: the model
  writer dumps it and the reader rejects what `json.loads` gives back (`C05_tree_dicts_artefact`).
  No Python program can build such a tree;
* `TreeDictsIn Dom t` — the content of every metadata section (main, change, file), when it is a
  `PyVal.dict j`, has `Dom j`: it lies in the domain on which `JsonLaws` is assumed.  (With
  `Dom := fun _ => True` it is `treeDictsIn_true`.);
* `b.length ≤ Reader.maxRead` — the bytes fit one `fp.read` (2⁶³ − 1);
* `0 < cfg.chunk` is a fact (`C05_cfg_chunk_pos`).

## Corners

Both theorems hold for every tree; the instance `ctree` exercises the corners where one might
expect otherwise:
* a preamble whose normalised text would be *re-detected* with another kind: the loaded tree
  carries the kind the writer used as an explicit `line_endings` option, nothing is re-detected
  (`ctree`: `'ça\nva'` declared `dos` comes back as `'ça\nva\r\n'`, `line_endings='dos'`, and
  re-serialises to the same bytes);
* `indent` absent vs `None`: absent ↦ `indent=4` recorded; `None` ↦ no indentation and
  `indent: None` stored last (as `options.setdefault('indent', None)` does); both re-serialise
  identically;
* option order: the loaded options are in the header's (sorted) key order, `indent: None` last.
-/
namespace Diffx.C05
open Diffx Diffx.Dom Diffx.DomRT Diffx.DomConc Diffx.Codecs
open Diffx.RunRT (ProgramLaws)

/-- `Codecs.cfg.chunk = 96` -/
theorem C05_cfg_chunk_pos : 0 < Codecs.cfg.chunk := by decide

section Concrete
variable {Dom : Json → Prop} (dumps : Json → EnvR Text) (loadsText : Text → EnvR Json) (loadsBytes : Bytes → EnvR Json)

/-- **the law-indexed normalised tree of `C05_tree_roundtrip` is `normalisedTree`**, whatever laws
it is given (in particular `lawsOfAccepted`) -/
theorem C05_expectedTree_concrete (hjson : JsonLaws Dom dumps loadsText) (wv : Text) (t : Tree) (b : Bytes)
    (hk : TreeOk t) (hd : TreeDicts t) (hin : TreeDictsIn Dom t)
    (h : toBytes (Codecs.env dumps loadsText loadsBytes) Codecs.cfg wv t = .ok b)
    (enc : Name) (calls : List Writer.Call)
    (hcalls : toCalls Codecs.cfg.defaultIndent t wv = .ok (some enc, Text.ofAscii b!"1.0", calls))
    (laws : ProgramLaws (Codecs.env dumps loadsText loadsBytes) Codecs.cfg enc calls) :
    expectedTree (Codecs.env dumps loadsText loadsBytes) Codecs.cfg wv t enc calls hcalls laws =
      normalisedTree Codecs.cfg.defaultIndent t := by
  obtain ⟨hctor, hc⟩ := toCalls_treeCalls _ _ _ _ _ _ hcalls
  subst hc
  obtain ⟨-, hok, hs⟩ := toBytes_run h hcalls
  obtain ⟨-, hall, -⟩ := RunRT.run_ok hok
  exact expTree_eq hjson hk hd hin hs (ctorArgs_enc hctor).symm hall

theorem laws_of_tree {dumps loadsText loadsBytes} (hjson : JsonLaws Dom dumps loadsText) {wv : Text} {t : Tree}
    {b : Bytes} (hk : TreeOk t) (hd : TreeDicts t) (hin : TreeDictsIn Dom t)
    (h : toBytes (Codecs.env dumps loadsText loadsBytes) Codecs.cfg wv t = .ok b)
    {enc : Name} {calls : List Writer.Call}
    (hcalls : toCalls Codecs.cfg.defaultIndent t wv = .ok (some enc, Text.ofAscii b!"1.0", calls))
    (hsize : b.length ≤ Reader.maxRead) :
    ∃ laws : ProgramLaws (Codecs.env dumps loadsText loadsBytes) Codecs.cfg enc calls,
      ReLaws (Codecs.env dumps loadsText loadsBytes) Codecs.cfg enc calls laws := by
  obtain ⟨hout, hok, -⟩ := toBytes_run h hcalls
  have hc := (toCalls_treeCalls _ _ _ _ _ _ hcalls).2
  have hdict : DictArgs calls := hc ▸ dictArgs_tree _ hk hd
  have hdin : DictsIn Dom calls := hc ▸ dictsIn_tree _ hk hin
  obtain ⟨laws, -⟩ := laws_of_accepted hjson enc calls hok hdict hdin
    (by rw [hout]; exact hsize)
  obtain ⟨-, hall, -⟩ := RunRT.run_ok hok
  exact ⟨laws, reLaws_any hjson hall hdict hdin laws.calls⟩

/-- **Object-model round trip, no hypothesis about codecs.**  For the concrete codecs and the BOM table
of the repository: for every well-formed tree whose metadata contents are JSON objects of the
domain `Dom` on which the laws of `json` are assumed, that serialises without error (main `encoding` a `str`, version 1.0) to bytes that fit one read,
parsing the bytes yields exactly `normalisedTree 4 t` — a function of the tree alone. -/
theorem C05_tree_roundtrip_concrete (hjson : JsonLaws Dom dumps loadsText) (wv : Text) (t : Tree) (b : Bytes)
    (hk : TreeOk t) (hd : TreeDicts t) (hin : TreeDictsIn Dom t)
    (h : toBytes (Codecs.env dumps loadsText loadsBytes) Codecs.cfg wv t = .ok b)
    (enc : Name) (calls : List Writer.Call)
    (hcalls : toCalls Codecs.cfg.defaultIndent t wv = .ok (some enc, Text.ofAscii b!"1.0", calls))
    (hsize : b.length ≤ Reader.maxRead) :
    fromBytes (Codecs.env dumps loadsText loadsBytes) Codecs.cfg wv b =
      .ok (normalisedTree Codecs.cfg.defaultIndent t) := by
  obtain ⟨laws, -⟩ := laws_of_tree hjson hk hd hin h hcalls hsize
  rw [C05_tree_roundtrip _ Codecs.cfg wv t b C05_cfg_chunk_pos hk h enc calls hcalls laws,
    C05_expectedTree_concrete dumps loadsText loadsBytes hjson wv t b hk hd hin h enc calls hcalls laws]

/-- **Fixed point, no hypothesis about codecs.**  Re-serialising the normalised tree gives the
identical bytes. -/
theorem C06_fixed_point_concrete (hjson : JsonLaws Dom dumps loadsText) (wv : Text) (t : Tree) (b : Bytes)
    (hk : TreeOk t) (hd : TreeDicts t) (hin : TreeDictsIn Dom t)
    (h : toBytes (Codecs.env dumps loadsText loadsBytes) Codecs.cfg wv t = .ok b)
    (enc : Name) (calls : List Writer.Call)
    (hcalls : toCalls Codecs.cfg.defaultIndent t wv = .ok (some enc, Text.ofAscii b!"1.0", calls))
    (hsize : b.length ≤ Reader.maxRead) :
    toBytes (Codecs.env dumps loadsText loadsBytes) Codecs.cfg wv (normalisedTree Codecs.cfg.defaultIndent t) =
      .ok b := by
  obtain ⟨laws, re⟩ := laws_of_tree hjson hk hd hin h hcalls hsize
  have hfix := C06_tree_fixed_point _ Codecs.cfg wv t b hk h enc calls hcalls laws re
  rwa [C05_expectedTree_concrete dumps loadsText loadsBytes hjson wv t b hk hd hin h enc calls hcalls laws] at hfix

/-- **Parse then re-serialise is the identity on library-produced files** (C06), for the concrete
codecs: `from_bytes b` succeeds with some tree `t'` and `to_bytes t' = b`. -/
theorem C06_parse_serialise_concrete (hjson : JsonLaws Dom dumps loadsText) (wv : Text) (t : Tree) (b : Bytes)
    (hk : TreeOk t) (hd : TreeDicts t) (hin : TreeDictsIn Dom t)
    (h : toBytes (Codecs.env dumps loadsText loadsBytes) Codecs.cfg wv t = .ok b)
    (enc : Name) (calls : List Writer.Call)
    (hcalls : toCalls Codecs.cfg.defaultIndent t wv = .ok (some enc, Text.ofAscii b!"1.0", calls))
    (hsize : b.length ≤ Reader.maxRead) :
    ∃ t', fromBytes (Codecs.env dumps loadsText loadsBytes) Codecs.cfg wv b = .ok t' ∧
      toBytes (Codecs.env dumps loadsText loadsBytes) Codecs.cfg wv t' = .ok b :=
  ⟨_, C05_tree_roundtrip_concrete dumps loadsText loadsBytes hjson wv t b hk hd hin h enc calls hcalls hsize,
    C06_fixed_point_concrete dumps loadsText loadsBytes hjson wv t b hk hd hin h enc calls hcalls hsize⟩

end Concrete

/-- **The normalisation is idempotent**: a normalised tree is its own normal form. -/
theorem C05_normalised_idempotent (di : Nat) (t : Tree) :
    normalisedTree di (normalisedTree di t) = normalisedTree di t := by
  unfold normalisedTree
  simp only [normSec_idem di newMeta rfl, normSec_idem di newPreamble rfl, List.map_map]
  have ho : optText (optStr b!"encoding" (optText t.opts b!"encoding") ++
      [(b!"version", PyVal.str (Text.ofAscii b!"1.0"))]) b!"encoding" = optText t.opts b!"encoding" := by
    cases optText t.opts b!"encoding" <;> rfl
  rw [ho]
  congr 1
  exact List.map_congr_left (fun c _ => normChange_idem di c)

/-- the tree: main options (`encoding` as given, `version=1.0`), the three levels by `map` —
**same changes and files, in the same order** -/
theorem C05_normalised_spec (di : Nat) (t : Tree) :
    (normalisedTree di t).opts =
      optStr b!"encoding" (optText t.opts b!"encoding") ++ [(b!"version", .str (Text.ofAscii b!"1.0"))] ∧
    (normalisedTree di t).preamble = normSec di newPreamble t.preamble ∧
    (normalisedTree di t).metaSec = normSec di newMeta t.metaSec ∧
    (normalisedTree di t).changes = t.changes.map (normChange di) ∧
    (∀ c : ChangeSec, normChange di c =
      ⟨optStr b!"encoding" (optText c.opts b!"encoding"), normSec di newPreamble c.preamble,
        normSec di newMeta c.metaSec, c.files.map (normFile di)⟩) ∧
    (∀ f : FileSec, normFile di f =
      ⟨optStr b!"encoding" (optText f.opts b!"encoding"), normSec di newMeta f.metaSec,
        normSec di newDiff f.diff⟩) ∧
    (normalisedTree di t).changes.length = t.changes.length ∧
    (normalisedTree di t).changes.map (·.files.length) = t.changes.map (·.files.length) := by
  refine ⟨rfl, rfl, rfl, rfl, fun _ => rfl, fun _ => rfl, by simp [normalisedTree], ?_⟩
  simp [normalisedTree, normChange, List.map_map, Function.comp_def]

/-- the content sections: a falsy section ↦ the section of a fresh tree / change / file; a
written preamble ↦ options `encoding`?, the indent used, `line_endings` declared or detected on
the first line, `mimetype`? and the text with that line ending appended when missing; metadata ↦
`encoding`?, `format=json` and the same dict; a diff ↦ `encoding`?, `line_endings` declared or
detected on the bytes with the newline of the codec `encoding or 'ascii'`, `type`? and the bytes
with that newline appended when missing -/
theorem C05_normalised_sections (di : Nat) (dflt : ContentSec) (o : DOpts) :
    (∀ c : ContentSec, c.content.truthy = false → normSec di dflt c = dflt) ∧
    (∀ t : Text, t ≠ [] → normSec di dflt ⟨.preamble, o, .str t⟩ =
      ⟨.preamble,
       preambleOpts (optText o b!"encoding") (indentOf di o)
         (leKind (textDos (optText o b!"line_endings") t)) (optText o b!"mimetype"),
       .str (normText t (textDos (optText o b!"line_endings") t))⟩) ∧
    (∀ j : Json, (PyVal.dict j).truthy = true → normSec di dflt ⟨.metadata, o, .dict j⟩ =
      ⟨.metadata, metaOpts (optText o b!"encoding") (Text.ofAscii b!"json"), .dict j⟩) ∧
    (∀ b : Bytes, b ≠ [] → normSec di dflt ⟨.diff, o, .bytes b⟩ =
      ⟨.diff,
       diffOpts (optText o b!"encoding")
         (leKind (diffDos (diffCodec (optText o b!"encoding")) (optText o b!"line_endings") b)) (typeOf o),
       .bytes (normBytes b (diffNl (optText o b!"encoding") (optText o b!"line_endings") b))⟩) := by
  refine ⟨fun c h => normSec_skip h, fun t ht => ?_, fun j hj => ?_, fun b hb => ?_⟩
  · obtain ⟨a, r, rfl⟩ := List.exists_cons_of_ne_nil ht
    rfl
  · unfold normSec
    simp only [hj, Bool.not_true, Bool.false_eq_true, if_false]
    rfl
  · obtain ⟨a, r, rfl⟩ := List.exists_cons_of_ne_nil hb
    rfl

/-- the options read off a section: a `str` value or nothing; the indent: the default when the
key is absent, the integer, or `None`; what the loaded option lists hold, key by key -/
theorem C05_normalised_options (di : Nat) (o : DOpts) (k : Bytes) :
    (∀ t, o.get k = some (.str t) → optText o k = some t) ∧
    (o.get k = none → optText o k = none) ∧
    (o.get k = some .none → optText o k = none) ∧
    (o.get b!"indent" = none → indentOf di o = some (di : Int)) ∧
    (∀ n, o.get b!"indent" = some (.int n) → indentOf di o = some n) ∧
    (o.get b!"indent" = some .none → indentOf di o = none) ∧
    (∀ e i le m, (preambleOpts e i le m).get b!"indent" = some (match i with | some i => .int i | none => .none) ∧
      (preambleOpts e i le m).get b!"line_endings" = some (.str le)) ∧
    (∀ e f, (metaOpts e f).get b!"format" = some (.str f)) ∧
    (∀ e le ty, (diffOpts e le ty).get b!"line_endings" = some (.str le)) := by
  refine ⟨fun t h => ?_, fun h => ?_, fun h => ?_, fun h => ?_, fun n h => ?_, fun h => ?_, fun e i le m => ?_,
    fun e f => ?_, fun e le ty => ?_⟩
  · simp [optText, kw, h]
  · simp [optText, kw, h]
  · simp [optText, kw, h]
  · simp [indentOf, h]
  · simp [indentOf, h]
  · simp [indentOf, h]
  · exact ⟨(C05_preamble_opts_get e i le m).2.1, (C05_preamble_opts_get e i le m).2.2.1⟩
  · cases e <;> rfl
  · cases e <;> cases ty <;> rfl

/-! ## Non-vacuity: a concrete tree, the mock `json` of C01Concrete, closed equations -/

open Diffx.C01 (menv mockDumps mockLoads mockJsonLaws jk j2 jk_representable j2_representable)

def cver : Text := t!"1.0"

/-- a UTF-16 (BOM) main preamble, indented by 2, CRLF on its first line and no final line ending;
the main metadata left empty (skipped); a Latin-1 change whose preamble declares
`line_endings='dos'` on a text without CR and `indent=None`, with metadata (escaped non-ASCII
value); a file with UTF-16-BE metadata and a diff whose CRLF is detected and whose final CRLF is
missing; a UTF-8 file with metadata (no `format` key) and a UTF-16 diff declared `unix` lacking its
final LF; a second change with a bare preamble (no `indent` key) -/
def ctree : Tree :=
  { opts := [(b!"encoding", .str t!"utf-8"), (b!"version", .str t!"1.0")]
    preamble := ⟨.preamble,
      [(b!"encoding", .str t!"utf-16"), (b!"indent", .int 2), (b!"mimetype", .str t!"text/plain")],
      .str t!"héllo 😀\r\nwörld"⟩
    metaSec := newMeta
    changes := [
      { opts := [(b!"encoding", .str t!"latin1")]
        preamble := ⟨.preamble, [(b!"line_endings", .str t!"dos"), (b!"indent", .none)], .str t!"ça\nva"⟩
        metaSec := ⟨.metadata, [(b!"format", .str t!"json")], .dict j2⟩
        files := [
          { opts := []
            metaSec := ⟨.metadata, [(b!"format", .str t!"json"), (b!"encoding", .str t!"utf-16-be")], .dict jk⟩
            diff := ⟨.diff, [(b!"type", .str t!"text")], .bytes b!"-a\r\n+b"⟩ },
          { opts := [(b!"encoding", .str t!"utf-8")]
            metaSec := ⟨.metadata, [], .dict jk⟩
            diff := ⟨.diff, [(b!"encoding", .str t!"utf-16"), (b!"line_endings", .str t!"unix")],
              .bytes [45, 0, 120, 0, 10, 0, 43, 0, 121, 0]⟩ }] },
      { opts := []
        preamble := ⟨.preamble, [], .str t!"x"⟩
        metaSec := newMeta
        files := [] }] }

theorem ctree_ok : TreeOk ctree := by decide
theorem ctree_dicts : TreeDicts ctree := by decide
theorem ctree_representable : TreeDictsIn (Json.Representable (fun _ => True)) ctree := by
  simp [TreeDictsIn, changeDictsIn, fileDictsIn, secDictIn, ctree, newMeta, jk_representable, j2_representable,
    Json.Representable, Json.RepresentableItems, Text.increasing]

/-- the 691 bytes `to_bytes` produces -/
def cbytes : Bytes :=
  b!"#diffx: encoding=utf-8, version=1.0\n#.preamble: encoding=utf-16, indent=2, length=40, line_endings=dos, mimetype=text/plain\n  " ++
  [255, 254, 104, 0, 233, 0, 108, 0, 108, 0, 111, 0, 32, 0, 61, 216, 0, 222, 13, 0, 10, 0] ++ b!"  " ++
  [119, 0, 246, 0, 114, 0, 108, 0, 100, 0, 13, 0, 10, 0] ++
  b!"#.change: encoding=latin1\n#..preamble: length=7, line_endings=dos\n" ++ [231] ++ b!"a\nva\r\n" ++
  b!"#..meta: format=json, length=67\n{\n    \"a\": \"\\u00e9\",\n    \"b\": [\n        null,\n        true\n    ]\n}\n" ++
  b!"#..file:\n#...meta: encoding=utf-16-be, format=json, length=30\n" ++
  [0, 123, 0, 10, 0, 32, 0, 32, 0, 32, 0, 32, 0, 34, 0, 107, 0, 34, 0, 58, 0, 32, 0, 49, 0, 10, 0, 125, 0, 10] ++
  b!"#...diff: length=8, line_endings=dos, type=text\n-a\r\n+b\r\n" ++
  b!"#..file: encoding=utf-8\n#...meta: format=json, length=15\n{\n    \"k\": 1\n}\n" ++
  b!"#...diff: encoding=utf-16, length=12, line_endings=unix\n" ++ [45, 0, 120, 0, 10, 0, 43, 0, 121, 0, 10, 0] ++
  b!"#.change:\n#..preamble: indent=4, length=6, line_endings=unix\n    x\n"

theorem ctree_bytes : toBytes menv Codecs.cfg cver ctree = .ok cbytes :=
  Except.eq_ok_of_toOption (by decide +kernel)

theorem cbytes_length : cbytes.length = 691 := by decide +kernel

def ccalls : List Writer.Call :=
  [.preamble (.str t!"héllo 😀\r\nwörld") (some t!"utf-16") (some 2) none (some t!"text/plain"),
   .newChange (some t!"latin1"),
   .preamble (.str t!"ça\nva") none none (some t!"dos") none,
   .metadata (.dict j2) none t!"json",
   .newFile none,
   .metadata (.dict jk) (some t!"utf-16-be") t!"json",
   .diff (.bytes b!"-a\r\n+b") (some t!"text") none none,
   .newFile (some t!"utf-8"),
   .metadata (.dict jk) none t!"json",
   .diff (.bytes [45, 0, 120, 0, 10, 0, 43, 0, 121, 0]) none (some t!"utf-16") (some t!"unix"),
   .newChange none,
   .preamble (.str t!"x") none (some 4) none none]

/-- the program `write_stream` runs for the tree -/
theorem ctree_calls :
    toCalls Codecs.cfg.defaultIndent ctree cver = .ok (some t!"utf-8", Text.ofAscii b!"1.0", ccalls) := by rfl

/-- the normalised tree, written out: final line endings appended (`'\r\n'` to the UTF-16 preamble
and to the first diff, `'\r\n'` — as declared — to `'ça\nva'`, the UTF-16 LF to the second diff,
`'\n'` to `'x'`), detected / declared `line_endings` recorded, `indent: None` stored last, the
default indent 4 and `format=json` recorded, the skipped metadata sections are the defaults,
options in key order -/
def cloaded : Tree :=
  { opts := [(b!"encoding", .str t!"utf-8"), (b!"version", .str t!"1.0")]
    preamble := ⟨.preamble,
      [(b!"encoding", .str t!"utf-16"), (b!"indent", .int 2), (b!"line_endings", .str t!"dos"),
       (b!"mimetype", .str t!"text/plain")],
      .str t!"héllo 😀\r\nwörld\r\n"⟩
    metaSec := newMeta
    changes := [
      { opts := [(b!"encoding", .str t!"latin1")]
        preamble := ⟨.preamble, [(b!"line_endings", .str t!"dos"), (b!"indent", .none)], .str t!"ça\nva\r\n"⟩
        metaSec := ⟨.metadata, [(b!"format", .str t!"json")], .dict j2⟩
        files := [
          { opts := []
            metaSec := ⟨.metadata, [(b!"encoding", .str t!"utf-16-be"), (b!"format", .str t!"json")], .dict jk⟩
            diff := ⟨.diff, [(b!"line_endings", .str t!"dos"), (b!"type", .str t!"text")],
              .bytes b!"-a\r\n+b\r\n"⟩ },
          { opts := [(b!"encoding", .str t!"utf-8")]
            metaSec := ⟨.metadata, [(b!"format", .str t!"json")], .dict jk⟩
            diff := ⟨.diff, [(b!"encoding", .str t!"utf-16"), (b!"line_endings", .str t!"unix")],
              .bytes [45, 0, 120, 0, 10, 0, 43, 0, 121, 0, 10, 0]⟩ }] },
      { opts := []
        preamble := ⟨.preamble, [(b!"indent", .int 4), (b!"line_endings", .str t!"unix")], .str t!"x\n"⟩
        metaSec := newMeta
        files := [] }] }

theorem cnormalised_eq : normalisedTree Codecs.cfg.defaultIndent ctree = cloaded := by rfl

/-- **`C05_tree_roundtrip_concrete` instantiated** … -/
theorem C05_concrete_instance : fromBytes menv Codecs.cfg cver cbytes = .ok cloaded := by
  have hsz : cbytes.length ≤ Reader.maxRead := by rw [cbytes_length]; decide
  rw [← cnormalised_eq]
  exact C05_tree_roundtrip_concrete mockDumps mockLoads (fun _ => .err) mockJsonLaws cver ctree cbytes ctree_ok
    ctree_dicts (treeDictsIn_true _) ctree_bytes t!"utf-8" ccalls ctree_calls hsz

/-- **`C05_tree_roundtrip_concrete` instantiated with the domain intended for CPython**, `Dom :=
Json.Representable` (`TreeDictsIn` is `ctree_representable`, not trivial here) -/
theorem C05_concrete_instance_dom : fromBytes menv Codecs.cfg cver cbytes = .ok cloaded := by
  have hsz : cbytes.length ≤ Reader.maxRead := by rw [cbytes_length]; decide
  rw [← cnormalised_eq]
  exact C05_tree_roundtrip_concrete mockDumps mockLoads (fun _ => .err)
    (mockJsonLaws.mono (Dom' := Json.Representable (fun _ => True)) (fun _ _ => trivial)) cver ctree cbytes ctree_ok
    ctree_dicts ctree_representable ctree_bytes t!"utf-8" ccalls ctree_calls hsz

set_option maxRecDepth 65536 in
/-- … a closed equation that is true by evaluation as well -/
example : fromBytes menv Codecs.cfg cver cbytes = .ok cloaded := by rfl

/-- **`C06_fixed_point_concrete` instantiated**: the loaded tree serialises to the same bytes … -/
theorem C06_concrete_instance : toBytes menv Codecs.cfg cver cloaded = .ok cbytes := by
  have hsz : cbytes.length ≤ Reader.maxRead := by rw [cbytes_length]; decide
  rw [← cnormalised_eq]
  exact C06_fixed_point_concrete mockDumps mockLoads (fun _ => .err) mockJsonLaws cver ctree cbytes ctree_ok
    ctree_dicts (treeDictsIn_true _) ctree_bytes t!"utf-8" ccalls ctree_calls hsz

set_option maxRecDepth 65536 in
/-- … true by evaluation as well -/
example : toBytes menv Codecs.cfg cver cloaded = .ok cbytes := Except.eq_ok_of_toOption (by decide +kernel)

set_option maxRecDepth 65536 in
/-- idempotence on the instance, by evaluation -/
example : normalisedTree Codecs.cfg.defaultIndent cloaded = cloaded := by rfl

/-- a UTF-32 (BOM) main preamble that starts with U+FEFF, indented by 2, CRLF on its first line and no
final line ending; a windows-1252 change whose preamble (`indent=None`) holds the euro sign, curly
quotes and the trade mark sign; a file with UTF-8-SIG metadata and a UTF-32-BE diff whose eight-byte
CRLF is detected and whose final CRLF is missing -/
def ctree2 : Tree :=
  { opts := [(b!"encoding", .str t!"utf-8"), (b!"version", .str t!"1.0")]
    preamble := ⟨.preamble,
      [(b!"encoding", .str t!"utf-32"), (b!"indent", .int 2), (b!"mimetype", .str t!"text/plain")],
      .str t!"\uFEFFhé😀\r\nw"⟩
    metaSec := newMeta
    changes := [
      { opts := [(b!"encoding", .str t!"windows-1252")]
        preamble := ⟨.preamble, [(b!"indent", .none)], .str t!"€ “x”™"⟩
        metaSec := ⟨.metadata, [(b!"format", .str t!"json")], .dict j2⟩
        files := [
          { opts := []
            metaSec := ⟨.metadata, [(b!"format", .str t!"json"), (b!"encoding", .str t!"utf-8-sig")], .dict jk⟩
            diff := ⟨.diff, [(b!"encoding", .str t!"utf-32-be")],
              .bytes [0, 0, 0, 45, 0, 0, 0, 120, 0, 0, 0, 13, 0, 0, 0, 10, 0, 0, 0, 43, 0, 0, 0, 121]⟩ }] }] }

theorem ctree2_ok : TreeOk ctree2 := by decide
theorem ctree2_dicts : TreeDicts ctree2 := by decide

/-- the 517 bytes `to_bytes` produces: the UTF-32 BOM once, after the indentation, then the encoded
U+FEFF; the UTF-8 signature at the start of the metadata -/
def cbytes2 : Bytes :=
  b!"#diffx: encoding=utf-8, version=1.0\n#.preamble: encoding=utf-32, indent=2, length=44, line_endings=dos, mimetype=text/plain\n  " ++
  [255, 254, 0, 0, 255, 254, 0, 0, 104, 0, 0, 0, 233, 0, 0, 0, 0, 246, 1, 0, 13, 0, 0, 0, 10, 0, 0, 0] ++ b!"  " ++
  [119, 0, 0, 0, 13, 0, 0, 0, 10, 0, 0, 0] ++
  b!"#.change: encoding=windows-1252\n#..preamble: length=7, line_endings=unix\n" ++ [128, 32, 147, 120, 148, 153, 10] ++
  b!"#..meta: format=json, length=67\n{\n    \"a\": \"\\u00e9\",\n    \"b\": [\n        null,\n        true\n    ]\n}\n" ++
  b!"#..file:\n#...meta: encoding=utf-8-sig, format=json, length=18\n" ++ [239, 187, 191] ++ b!"{\n    \"k\": 1\n}\n" ++
  b!"#...diff: encoding=utf-32-be, length=32, line_endings=dos\n" ++
  [0, 0, 0, 45, 0, 0, 0, 120, 0, 0, 0, 13, 0, 0, 0, 10, 0, 0, 0, 43, 0, 0, 0, 121, 0, 0, 0, 13, 0, 0, 0, 10]

theorem ctree2_bytes : toBytes menv Codecs.cfg cver ctree2 = .ok cbytes2 :=
  Except.eq_ok_of_toOption (by decide +kernel)

theorem cbytes2_length : cbytes2.length = 517 := by decide +kernel

def ccalls2 : List Writer.Call :=
  [.preamble (.str t!"\uFEFFhé😀\r\nw") (some t!"utf-32") (some 2) none (some t!"text/plain"),
   .newChange (some t!"windows-1252"),
   .preamble (.str t!"€ “x”™") none none none none,
   .metadata (.dict j2) none t!"json",
   .newFile none,
   .metadata (.dict jk) (some t!"utf-8-sig") t!"json",
   .diff (.bytes [0, 0, 0, 45, 0, 0, 0, 120, 0, 0, 0, 13, 0, 0, 0, 10, 0, 0, 0, 43, 0, 0, 0, 121]) none
     (some t!"utf-32-be") none]

theorem ctree2_calls :
    toCalls Codecs.cfg.defaultIndent ctree2 cver = .ok (some t!"utf-8", Text.ofAscii b!"1.0", ccalls2) := by rfl

def cloaded2 : Tree :=
  { opts := [(b!"encoding", .str t!"utf-8"), (b!"version", .str t!"1.0")]
    preamble := ⟨.preamble,
      [(b!"encoding", .str t!"utf-32"), (b!"indent", .int 2), (b!"line_endings", .str t!"dos"),
       (b!"mimetype", .str t!"text/plain")],
      .str t!"\uFEFFhé😀\r\nw\r\n"⟩
    metaSec := newMeta
    changes := [
      { opts := [(b!"encoding", .str t!"windows-1252")]
        preamble := ⟨.preamble, [(b!"line_endings", .str t!"unix"), (b!"indent", .none)], .str t!"€ “x”™\n"⟩
        metaSec := ⟨.metadata, [(b!"format", .str t!"json")], .dict j2⟩
        files := [
          { opts := []
            metaSec := ⟨.metadata, [(b!"encoding", .str t!"utf-8-sig"), (b!"format", .str t!"json")], .dict jk⟩
            diff := ⟨.diff, [(b!"encoding", .str t!"utf-32-be"), (b!"line_endings", .str t!"dos")],
              .bytes [0, 0, 0, 45, 0, 0, 0, 120, 0, 0, 0, 13, 0, 0, 0, 10, 0, 0, 0, 43, 0, 0, 0, 121, 0, 0, 0, 13,
                0, 0, 0, 10]⟩ }] }] }

theorem cnormalised2_eq : normalisedTree Codecs.cfg.defaultIndent ctree2 = cloaded2 := by rfl

/-- **`C05_tree_roundtrip_concrete` instantiated on the second tree** -/
theorem C05_concrete_instance2 : fromBytes menv Codecs.cfg cver cbytes2 = .ok cloaded2 := by
  have hsz : cbytes2.length ≤ Reader.maxRead := by rw [cbytes2_length]; decide
  rw [← cnormalised2_eq]
  exact C05_tree_roundtrip_concrete mockDumps mockLoads (fun _ => .err) mockJsonLaws cver ctree2 cbytes2 ctree2_ok
    ctree2_dicts (treeDictsIn_true _) ctree2_bytes t!"utf-8" ccalls2 ctree2_calls hsz

set_option maxRecDepth 65536 in
/-- … true by evaluation as well -/
example : fromBytes menv Codecs.cfg cver cbytes2 = .ok cloaded2 := by rfl

/-- **`C06_fixed_point_concrete` instantiated on the second tree** -/
theorem C06_concrete_instance2 : toBytes menv Codecs.cfg cver cloaded2 = .ok cbytes2 := by
  have hsz : cbytes2.length ≤ Reader.maxRead := by rw [cbytes2_length]; decide
  rw [← cnormalised2_eq]
  exact C06_fixed_point_concrete mockDumps mockLoads (fun _ => .err) mockJsonLaws cver ctree2 cbytes2 ctree2_ok
    ctree2_dicts (treeDictsIn_true _) ctree2_bytes t!"utf-8" ccalls2 ctree2_calls hsz

set_option maxRecDepth 65536 in
/-- … true by evaluation as well -/
example : toBytes menv Codecs.cfg cver cloaded2 = .ok cbytes2 := Except.eq_ok_of_toOption (by decide +kernel)

/-! ## Why `TreeDicts` is needed (a fact about the plain-data model, not about pydiffx)

`PyVal.dict j` stands for a Python `dict`, but `j : Json` may be any JSON value.  With a `json` that
dumps the integer `1` (and, vacuously, satisfies `JsonLaws` on every domain — they speak of dicts
only — while the tree is trivially `TreeDictsIn (fun _ => True)`), a
"metadata dict" `.dict (.int 1)` is written and the reader rejects what `json.loads` returns. -/

def adumps : Json → EnvR Text
  | .int _ => .ok t!"1"
  | _ => .err

def aenv : Env := Codecs.env adumps (fun _ => .ok (.int 1)) (fun _ => .err)

def atree : Tree :=
  { opts := [(b!"encoding", .str t!"utf-8")], preamble := newPreamble,
    metaSec := ⟨.metadata, [], .dict (.int 1)⟩, changes := [] }

theorem ajsonLaws : JsonLaws (fun _ => True) adumps (fun _ => .ok (.int 1)) where
  ascii := fun _ _ _ h => by cases h
  noCR := fun _ _ _ h => by cases h
  loads := fun _ _ _ h => by cases h

/-- the ill-typed tree is `TreeOk`, serialises, and the bytes do not parse -/
theorem C05_tree_dicts_artefact :
    TreeOk atree ∧ ¬ TreeDicts atree ∧
    toBytes aenv Codecs.cfg cver atree = .ok b!"#diffx: encoding=utf-8, version=1.0\n#.meta: format=json, length=2\n1\n" ∧
    (match fromBytes aenv Codecs.cfg cver b!"#diffx: encoding=utf-8, version=1.0\n#.meta: format=json, length=2\n1\n" with
     | .error (.parse 1 none) => True
     | _ => False) := by
  refine ⟨by decide, by decide, Except.eq_ok_of_toOption (by decide +kernel), ?_⟩
  have : fromBytes aenv Codecs.cfg cver b!"#diffx: encoding=utf-8, version=1.0\n#.meta: format=json, length=2\n1\n" =
      .error (.parse 1 none) := by rfl
  rw [this]
  trivial

end Diffx.C05
