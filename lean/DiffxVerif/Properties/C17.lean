import DiffxVerif.Lemmas.Stream
import DiffxVerif.Generated.Tables
/-!
# C17 — Reader output does not depend on stream chunking or header alignment

> The records produced for a file are the same wherever its header lines fall
> relative to the reader's internal read-ahead blocks, however long a header or
> content line is, and whatever read-ahead block size is used: reading ahead to
> find the end of a header never loses, duplicates or re-reads a byte of the
> content that follows.

`Reader.readUntil chunk c rest` is the model of `DiffXReader._read_until`
(chunked `fp.read`, `find`, relative `seek` back); `Reader.readAll env cfg chunk`
is the whole streaming reader.  All statements hold for **every** byte string,
every environment and every positive block size — no well-formedness of the
file is assumed, so "every alignment" and "every padding" are covered.
-/
namespace Diffx.C17
open Diffx Diffx.Reader

/-- chunked read-ahead = "everything up to and including the first delimiter"
(or everything, with the eof flag, when there is none), for every block size -/
theorem C17_readUntil (chunk : Nat) (hc : 0 < chunk) (c : UInt8) (rest : Bytes) :
    readUntil chunk c rest = readLineSpec c rest :=
  readUntil_eq_spec hc c rest

/-- no byte is lost, duplicated or re-read: what was returned followed by what is
still unread is exactly what was unread before -/
theorem C17_no_loss (chunk : Nat) (hc : 0 < chunk) (c : UInt8) (rest : Bytes) :
    (readUntil chunk c rest).1 ++ (readUntil chunk c rest).2.2 = rest := by
  rw [readUntil_eq_spec hc]
  unfold readLineSpec
  cases findSub [c] rest <;> simp

/-- the whole reader: records and outcome are independent of the block size -/
theorem C17_chunk_independent (env : Env) (cfg : Config) (c₁ c₂ : Nat) (h₁ : 0 < c₁) (h₂ : 0 < c₂)
    (data : Bytes) :
    readAll env cfg c₁ data = readAll env cfg c₂ data := by
  simp only [readAll, readLoop_chunk_independent env cfg h₁ h₂]

/-- tie: the block size found in the working tree satisfies the hypothesis -/
theorem C17_tie_chunk : Generated.chunkKnown = true ∧ 0 < Generated.config.chunk := by decide

/-- hence the reader as configured in the repository equals the reader with any
other positive block size -/
theorem C17_configured (env : Env) (cfg : Config) (c : Nat) (h : 0 < c) (data : Bytes) :
    readAll env cfg Generated.config.chunk data = readAll env cfg c data :=
  C17_chunk_independent env cfg _ _ C17_tie_chunk.2 h data

/-- a test (not the claim): a delimiter exactly at a block boundary -/
example : readUntil 4 10 [1, 2, 3, 10, 5, 6] = ([1, 2, 3, 10], false, [5, 6]) := by decide +kernel
example : readUntil 3 10 [1, 2, 3, 10, 5, 6] = ([1, 2, 3, 10], false, [5, 6]) := by decide +kernel

/-- with block size 0 the code reads nothing and reports end of file: the
hypothesis `0 < chunk` is necessary -/
example : readUntil 0 10 [1, 10] = ([], true, [1, 10]) := by decide +kernel

end Diffx.C17
