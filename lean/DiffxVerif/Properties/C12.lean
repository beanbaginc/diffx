import DiffxVerif.Lemmas.ReaderFrame
/-!
# C12 — Unknown header options are carried through and change nothing else

> Adding any number of syntactically valid options the library does not know to
> any header of a well-formed file, at any position in the option list, leaves the
> reader's output unchanged except that each affected record's options
> additionally contain those keys with their values (integers converted).

The statements are about the reader model from **any** loop state (any line
number, any set of allowed ids, any encoding stack), so they apply to every
header of every file: the bytes before a header are identical in the original
and the extended file, hence so is the state in which the header is read.
-/
namespace Diffx.C12
open Diffx Diffx.Reader Diffx.Header

/-- the option names the reader looks up -/
def knownKeys : List Bytes := [b!"encoding", b!"length", b!"indent", b!"line_endings", b!"format", b!"version"]

/-- `pairs'` is `pairs` with one extra pair `(k, v)` inserted at position `i` -/
def Inserted (pairs pairs' : List (Bytes × Bytes)) (i : Nat) (k v : Bytes) : Prop :=
  i ≤ pairs.length ∧ pairs' = pairs.take i ++ (k, v) :: pairs.drop i

/-- **Header level.** Inserting a valid pair with a fresh key anywhere in the
option list: the header is still accepted, every other key reads as before and
the new key reads as its (converted) value. -/
theorem C12_header (valid : List SecId) (sec : SecId) (pairs pairs' : List (Bytes × Bytes)) (i : Nat)
    (k v : Bytes) (hi : Inserted pairs pairs' i k v)
    (hg : Spec.GrammarOk sec pairs) (hv : sec ∈ valid)
    (hk : keyOk k = true) (hvv : valOk v = true) (hf : k ∉ pairs.map (·.1)) :
    ∃ opts', parseHeader valid (Spec.headerLine sec pairs') = .ok ⟨sec, opts'⟩ ∧
      opts'.get k = some (convert v) ∧
      ∀ k', k' ≠ k → opts'.get k' = (Spec.reported pairs).get k' := by
  obtain ⟨_, rfl⟩ := hi
  have hg' : Spec.GrammarOk sec (pairs.take i ++ (k, v) :: pairs.drop i) := by
    refine ⟨hg.1, ?_⟩
    intro p hp
    rcases List.mem_append.mp hp with hp | hp
    · exact hg.2 p (List.mem_of_mem_take hp)
    · rcases List.mem_cons.mp hp with rfl | hp
      · exact ⟨hk, hvv⟩
      · exact hg.2 p (List.mem_of_mem_drop hp)
  have hfd : k ∉ (pairs.drop i).map (·.1) := by
    intro hm
    obtain ⟨p, hp, rfl⟩ := List.mem_map.mp hm
    exact hf (List.mem_map.mpr ⟨p, List.mem_of_mem_drop hp, rfl⟩)
  refine ⟨_, parseHeader_headerLine hg' hv, ?_, ?_⟩
  · show (reportedFrom [] _).get k = _
    rw [reportedFrom_append, reportedFrom_cons, reportedFrom_get_notin _ hfd, Opts.get_set_self]
  · intro k' hk'
    have hsplit : Spec.reported pairs = reportedFrom (reportedFrom [] (pairs.take i)) (pairs.drop i) := by
      rw [← reportedFrom_append, List.take_append_drop]
      rfl
    rw [hsplit]
    show (reportedFrom [] _).get k' = _
    rw [reportedFrom_append, reportedFrom_cons]
    apply reportedFrom_get_congr
    exact Opts.get_set_ne _ _ hk'

/-- **Section level.** Two option lists that agree on every key the reader looks
up lead to the same processing of the section: same content, same line, same
new state; only the record's `options` differ (they are the header's). -/
theorem C12_step (env : Env) (cfg : Config) (chunk : Nat) (l : Loop) (h₁ h₂ nl post : Bytes)
    (sec : SecId) (o₁ o₂ : Opts)
    (hnl : nl = [10] ∨ nl = [13, 10]) (hcr : l.st.fileCrlf = none ∨ l.st.fileCrlf = some (nl == [13, 10]))
    (hp₁ : parseHeader l.valid h₁ = .ok ⟨sec, o₁⟩) (hp₂ : parseHeader l.valid h₂ = .ok ⟨sec, o₂⟩)
    (hag : ∀ key ∈ knownKeys, o₁.get key = o₂.get key) :
    let l₁ := { l with st := { l.st with rest := h₁ ++ nl ++ post } }
    let l₂ := { l with st := { l.st with rest := h₂ ++ nl ++ post } }
    (stepSection env cfg chunk l₁).map (Option.map fun p => ({ p.1 with opts := o₂ }, p.2)) =
      stepSection env cfg chunk l₂ := by
  intro l₁ l₂
  rw [stepSection_chain, stepSection_chain]
  cases chunk with
  | zero => rw [readHeader_chunk_zero, readHeader_chunk_zero]; rfl
  | succ c =>
    simp only [l₁, l₂]
    rw [readHeader_exact (chunk := c + 1) (by omega) nl post _ _ hnl hcr hp₁,
      readHeader_exact (chunk := c + 1) (by omega) nl post _ _ hnl hcr hp₂]
    simp only [Except.ok_bind]
    exact stepHdr_opts_agree env cfg l.encodings l.prevLevel sec _ _ hag

/-- **File level.** Extending the header that is about to be read: the rest of
the run is unchanged — same outcome, same records except that the first one
carries the extended options. -/
theorem C12_run (env : Env) (cfg : Config) (chunk : Nat) (l : Loop) (h₁ h₂ nl post : Bytes)
    (sec : SecId) (o₁ o₂ : Opts)
    (hnl : nl = [10] ∨ nl = [13, 10]) (hcr : l.st.fileCrlf = none ∨ l.st.fileCrlf = some (nl == [13, 10]))
    (hp₁ : parseHeader l.valid h₁ = .ok ⟨sec, o₁⟩) (hp₂ : parseHeader l.valid h₂ = .ok ⟨sec, o₂⟩)
    (hag : ∀ key ∈ knownKeys, o₁.get key = o₂.get key) (f₁ f₂ : Nat)
    (hf₁ : (h₁ ++ nl ++ post).length < f₁) (hf₂ : (h₂ ++ nl ++ post).length < f₂) :
    let l₁ := { l with st := { l.st with rest := h₁ ++ nl ++ post } }
    let l₂ := { l with st := { l.st with rest := h₂ ++ nl ++ post } }
    let run₁ := readLoop env cfg chunk f₁ l₁
    let run₂ := readLoop env cfg chunk f₂ l₂
    run₂.2 = run₁.2 ∧ run₂.1.length = run₁.1.length ∧ run₂.1.tail = run₁.1.tail ∧
      ∀ r₁ r₂, run₁.1.head? = some r₁ → run₂.1.head? = some r₂ → r₂ = { r₁ with opts := o₂ } := by
  intro l₁ l₂ run₁ run₂
  have hstep : (stepSection env cfg chunk l₁).map (Option.map fun p => ({ p.1 with opts := o₂ }, p.2)) =
      stepSection env cfg chunk l₂ := C12_step env cfg chunk l h₁ h₂ nl post sec o₁ o₂ hnl hcr hp₁ hp₂ hag
  simp only [run₁, run₂]
  rw [readLoop_eq (l := l₁) hf₁, readLoop_eq (l := l₂) hf₂, ← hstep]
  rcases stepSection env cfg chunk l₁ with o | (_ | ⟨r, l'⟩)
  · exact ⟨rfl, rfl, rfl, fun _ _ e1 => nomatch e1⟩
  · exact ⟨rfl, rfl, rfl, fun _ _ e1 => nomatch e1⟩
  · refine ⟨rfl, rfl, rfl, ?_⟩
    intro r₁ r₂ e1 e2
    simp only [Except.map, Option.map, List.head?_cons, Option.some.injEq] at e1 e2
    rw [← e1, ← e2]

end Diffx.C12
