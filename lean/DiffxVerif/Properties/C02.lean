import DiffxVerif.Lemmas.RoundTrip
import DiffxVerif.Lemmas.WriterStep
/-!
# C02 — Writer emits only spec-conformant, canonical DiffX bytes

> Every byte stream produced by an accepted sequence of writer calls conforms to
> the DiffX 1.0 specification and is canonical: each header is ASCII, matches the
> spec header grammar with options in alphabetical order separated by ", ", uses
> one of the nine legal section ids in an order the section hierarchy allows;
> every content header carries length equal to the exact number of content bytes
> up to the next header; content ends with the newline of its declared line-ending
> kind encoded (BOM-free) in the section's effective encoding; preamble
> indentation is ASCII spaces added to every line after encoding; metadata is JSON
> with sorted keys, 4-space indent. The bytes equal, byte for byte, what an
> independent serializer derived from the specification produces for the same
> calls.

Theorems about `Writer.*` (Model/Writer.lean) for every environment, state and
call; for a whole program (the output is the rendering of a well-formed specification document) see
Properties/C02Doc.lean.  Section ids / order: Properties/C09.lean.  Byte-for-byte equality with the
independent serializer (harness/specdoc.py) and the JSON layout (`json.dumps` is
environment) are decided by the three-way differential run of the check.
-/
namespace Diffx.C02
open Diffx Diffx.Writer

/-- the options of a rendered header, as (key, ASCII value) pairs in the order written -/
def writtenPairs (options : List (Bytes × Option HVal)) : List (Bytes × Bytes) :=
  (sortOpts (options.filterMap (fun p => p.2.map (fun v => (p.1, v))))).map (fun p => (p.1, p.2.text.toAscii))

/-- **Header shape.** Whatever `_write_section_header` emits is `#id:` followed by
the options that are not `None`, as `key=value` joined by `", "`, in ascending key
order, terminated by LF, and every byte is ASCII. -/
theorem C02_header (sec : SecId) (options : List (Bytes × Option HVal)) (h : Bytes)
    (hr : renderHeader sec options = .ok h) :
    h = Spec.headerLine sec (writtenPairs options) ++ [10] ∧
    ((writtenPairs options).map (·.1)).Pairwise (· ≤ ·) ∧
    (∀ b ∈ h, b < 128) := by
  unfold writtenPairs
  replace hr := (renderHeader_ok hr).2
  unfold renderBody presentOpts at hr
  dsimp only at hr
  generalize hsorted : sortOpts (options.filterMap (fun p => p.2.map (fun v => (p.1, v)))) = sorted at hr ⊢
  rw [intersperse_flatten_eq] at hr
  split at hr
  · cases hr
  · rename_i hascii
    have hascii' : isAsciiText (joinText (sorted.map (fun p => Text.ofAscii p.1 ++ [61] ++ p.2.text))) = true := by
      simpa using hascii
    rw [joinText_isEmpty] at hr
    have hh : h = Spec.headerLine sec (sorted.map (fun p => (p.1, p.2.text.toAscii))) ++ [10] := by
      have := Except.ok.inj hr
      rw [← this]
      unfold Spec.headerLine
      rw [← joinText_toAscii]
      cases sorted <;> simp
    refine ⟨hh, ?_, ?_⟩
    · rw [List.map_map, List.pairwise_map]
      rw [← hsorted]
      exact sortOpts_sorted _
    · rw [← Except.ok.inj hr]
      split
      · simp only [List.forall_mem_append, List.forall_mem_singleton]
        exact ⟨⟨⟨by decide, secId_bytes_ascii sec⟩, by decide⟩, by decide⟩
      · simp only [List.forall_mem_append, List.forall_mem_singleton]
        exact ⟨⟨⟨⟨⟨by decide, secId_bytes_ascii sec⟩, by decide⟩, by decide⟩, toAscii_lt _ hascii'⟩, by decide⟩

/-- hence, when the option values are option-value characters (true of every value
the writer itself produces — digits, `unix`/`dos`, `json`, mimetypes, diff types —
and of codec names made of such characters), the header is in the specification's
grammar and the reader of C11 accepts it with exactly these options -/
theorem C02_header_grammar (sec : SecId) (hs : sec.level ≤ 3) (options : List (Bytes × Option HVal)) (h : Bytes)
    (hr : renderHeader sec options = .ok h)
    (hk : ∀ p ∈ writtenPairs options, Header.keyOk p.1 = true ∧ Header.valOk p.2 = true) (valid : List SecId)
    (hv : sec ∈ valid) :
    Spec.GrammarOk sec (writtenPairs options) ∧
    Header.parseHeader valid (h.take (h.length - 1)) = .ok ⟨sec, Spec.reported (writtenPairs options)⟩ := by
  obtain ⟨hh, _, _⟩ := C02_header sec options h hr
  have hg : Spec.GrammarOk sec (writtenPairs options) := ⟨hs, hk⟩
  refine ⟨hg, ?_⟩
  rw [hh]
  simp only [List.length_append, List.length_singleton, Nat.add_sub_cancel, List.take_left']
  exact Header.parseHeader_headerLine hg hv

/-- **Written values are representable.** `_write_section_header` refuses
(`DiffXOptionValueError`, before anything is written) a value that is not made of
option-value characters and a `str` value that `int()` accepts.  So for every header that
is emitted: each written value matches `[A-Za-z0-9/_.-]+`, and each `str` value given —
an encoding name, a mimetype, … — is read back as that string, not as an integer. -/
theorem C02_written_values_ok (sec : SecId) (options : List (Bytes × Option HVal)) (h : Bytes)
    (hr : renderHeader sec options = .ok h) :
    (∀ p ∈ writtenPairs options, Header.valOk p.2 = true) ∧
    (∀ k t, (k, some (HVal.str t)) ∈ options → Header.convert t.toAscii = .str t.toAscii) := by
  constructor
  · intro p hp
    obtain ⟨q, hq, rfl⟩ := List.mem_map.mp hp
    exact (valueRefused_false
      ((renderHeader_ok hr).1 q (sortOpts_perm.mem_iff.mp hq))).2
  · intro k t hm
    exact (valueRefused_str_false (renderHeader_ok_value hr hm)).2.2

/-- hence `C02_header_grammar` needs no hypothesis on the values: whenever the keys are
option keys, an emitted header is in the specification's grammar and the reader of C11
accepts it with exactly these options -/
theorem C02_header_grammar_auto (sec : SecId) (hs : sec.level ≤ 3) (options : List (Bytes × Option HVal))
    (h : Bytes) (hr : renderHeader sec options = .ok h)
    (hk : ∀ p ∈ writtenPairs options, Header.keyOk p.1 = true) (valid : List SecId)
    (hv : sec ∈ valid) :
    Spec.GrammarOk sec (writtenPairs options) ∧
    Header.parseHeader valid (h.take (h.length - 1)) = .ok ⟨sec, Spec.reported (writtenPairs options)⟩ :=
  C02_header_grammar sec hs options h hr
    (fun p hp => ⟨hk p hp, (C02_written_values_ok sec options h hr).1 p hp⟩) valid hv

/-- **Length and layout of a content section.** An accepted content call appends
exactly `header ++ content`, where the header's `length` option is the decimal
number of content bytes. -/
theorem C02_length (env : Env) (cfg : Config) (st st' : St) (name : SecName) (content : Arg)
    (le : Option Text) (enc : Option Name) (indent : Option Int) (writeLe inherit : Bool)
    (extra : List (Bytes × Option HVal))
    (h : (newContent env cfg name content le enc indent writeLe inherit extra).run st = .ok () st') :
    ∃ header data leOut opts,
      prepareContent env cfg st content indent le enc inherit = .ok (data, leOut) ∧
      renderHeader ⟨st.level, name⟩ opts = .ok header ∧
      (b!"length", some (HVal.int data.length)) ∈ opts ∧
      st'.out = st.out ++ header ++ data := by
  rw [newContent_run] at h
  unfold emit at h
  split at h
  · cases h
  · split at h
    · cases h
    · rename_i b stk hpay
      obtain ⟨data, leOut, header, hp, hh, rfl, rfl⟩ := contentPayload_ok_iff.1 hpay
      cases h
      exact ⟨header, data, leOut, _, hp, hh, by simp, by simp⟩

/-- **Trailing newline.** Prepared content always ends with the newline bytes it
was prepared with (`nl`), whatever the content and the indentation. -/
theorem C02_trailing_newline (env : Env) (cfg : Config) (st : St) (content : Arg) (indent : Option Int)
    (le : Option Text) (enc : Option Name) (inherit : Bool) (data : Bytes) (leOut : Text)
    (h : prepareContent env cfg st content indent le enc inherit = .ok (data, leOut)) :
    ∃ nl, PreparedWith env cfg st content le enc inherit nl leOut ∧ (nl ≠ [] → nl <:+ data) := by
  obtain ⟨nl, d, h1, h2⟩ := prepareContent_ok_iff.mp h
  exact ⟨nl, (prepCore_ok h1).1, fun _ => prepFinish_suffix h2⟩

/-- **Indentation.** With a positive indent the prepared content is the
un-indented prepared content with `indent` spaces put in front of every line
(lines = `split_lines` on the section's newline). -/
theorem C02_indent (env : Env) (cfg : Config) (st : St) (content : Arg) (n : Nat) (hn : 0 < n)
    (le : Option Text) (enc : Option Name) (inherit : Bool) (data : Bytes) (leOut : Text)
    (h : prepareContent env cfg st content (some (n : Int)) le enc inherit = .ok (data, leOut)) :
    ∃ raw nl, prepareContent env cfg st content none le enc inherit = .ok (raw, leOut) ∧
      PreparedWith env cfg st content le enc inherit nl leOut ∧
      data = ((splitLines raw nl true).map (List.replicate n (32 : UInt8) ++ ·)).flatten := by
  obtain ⟨nl, d, h1, h2⟩ := prepareContent_ok_iff.mp h
  refine ⟨normBytes d nl, nl,
    prepareContent_ok_iff.mpr ⟨nl, d, h1, rfl⟩, (prepCore_ok h1).1, ?_⟩
  rcases prepFinish_ok h2 with ⟨hz, -⟩ | ⟨-, -, rfl⟩
  · simp only [Option.getD_some] at hz
    omega
  · simp

end Diffx.C02
