import DiffxVerif.Lemmas.LexerBridge
import DiffxVerif.Properties.C20
import DiffxVerif.Properties.C02Doc
/-!
# C20 (writer files) — the header clause for the files of the writer model

> … for UTF-8 DiffX files produced by the writer whose content contains no "#."
> sequence, no error token is produced and the header tokens are exactly the
> file's section headers in order.

`Properties/C20.lean` proves this clause (`C20_headers`) for a text given as a list of
`Lexer.Sec` (tag, option string, content — code points).  Here it is a theorem about **files**:

* `C20_rendered`: for every specification document (`Spec/Document.lean`) that is well-formed
  (`Spec.WF`), has no blank lines, and whose section contents are the UTF-8 encodings of texts
  in which no `#.` occurs (`NoHashDot`, Lemmas/Lexer.lean): the file
  `Spec.render false doc` decodes as UTF-8, and lexing the decoded text yields as `tag` tokens
  exactly the header tags of the sections, in order, and no `error` token;
* `C20_writer_file`: the same for the bytes written by any accepted writer program
  (`Writer.run`), by `C02_conforms` (the bytes are the rendering of the program's document,
  which is well-formed and canonical).

The lexer sections are built from the specification sections (`LexerBridge.lexSecs`): rule from
the section name, tag `#`‥dots‥name`:`, option string `k=v, …` when there are options, content
the text.  `Lemmas/LexerBridge.lean` shows that their text encodes to the file (header lines are
ASCII by the header grammar), that each is `Sec.Benign` (the nine legal ids are the lexer's ten
tags less `#...preamble:`; no newline in an option string; containers are empty and content
sections are not: `SecOk.noContent`, `SecOk.nlNonempty` + `SecOk.nlTerminated`) and that they
form a `Document` (hierarchy: the first section is `#diffx:`, no later one is).
-/
namespace Diffx.C20
open Diffx Diffx.Lexer Diffx.RunRT

/-- ASCII bytes as code points -/
def asciiStr (b : Bytes) : Str := b.map (·.toNat)

/-- the header tag of a section as the lexer sees it: `#`, dots, name, `:` -/
def tagOf (s : Spec.Sec) : Str := asciiStr ([35] ++ s.id.bytes ++ [58])

/-- a UTF-8 file: the content of every section is the UTF-8 encoding of a text (one text per
section, `[]` for containers).  This is `List.Forall₂` (which core Lean does not have) of
`fun s t => Codecs.encChars Codecs.utf8Char t = some s.content`; the recursive definition lives in
Lemmas/LexerBridge.lean because the lemmas are stated with it, its equations are restated here:
```
def Utf8Doc : List Spec.Sec → List Str → Prop
  | [], [] => True
  | s :: doc, t :: texts => encChars utf8Char t = some s.content ∧ Utf8Doc doc texts
  | _, _ => False
``` -/
abbrev Utf8Doc : List Spec.Sec → List Str → Prop := LexerBridge.Utf8Doc

example : Utf8Doc [] [] ↔ True := Iff.rfl
example (s : Spec.Sec) (doc : List Spec.Sec) (t : Str) (texts : List Str) :
    Utf8Doc (s :: doc) (t :: texts) ↔
      Codecs.encChars Codecs.utf8Char t = some s.content ∧ Utf8Doc doc texts := Iff.rfl
example (s : Spec.Sec) (doc : List Spec.Sec) : Utf8Doc (s :: doc) [] ↔ False := Iff.rfl
example (t : Str) (texts : List Str) : Utf8Doc [] (t :: texts) ↔ False := Iff.rfl

/-- the decoded text is the concatenation of the sections as the lexer sees them: header tag,
option string, newline, and the text of the content (so that the token positions of
`C20_contiguous` refer to it) -/
theorem C20_rendered_text (env : Env) (cfg : Config) (doc : List Spec.Sec) (texts : List Str)
    (hwf : Spec.WF env cfg doc) (hblank : ∀ s ∈ doc, s.blank = []) (hu : Utf8Doc doc texts) :
    Codecs.decChars Codecs.utf8Step (Spec.render false doc) =
      some ((LexerBridge.lexSecs doc texts).flatMap Sec.text) :=
  Codecs.decChars_encChars Codecs.stepOk_utf8 _ _
    (LexerBridge.enc_lexSecs doc texts hu (LexerBridge.wfFrom_facts hwf.sections) hblank)

/-- **Rendered documents.**  For every well-formed canonical (no blank lines) document whose
contents are UTF-8 texts without `#.`: the file decodes as UTF-8, and lexing the decoded text
yields as `tag` tokens exactly the section headers in order, and no error token. -/
theorem C20_rendered (subs : Subs) (hl : SubsLossless subs) (hq : SubsQuiet subs)
    (env : Env) (cfg : Config) (doc : List Spec.Sec) (texts : List Str)
    (hwf : Spec.WF env cfg doc) (hblank : ∀ s ∈ doc, s.blank = [])
    (hu : Utf8Doc doc texts) (hnd : ∀ t ∈ texts, NoHashDot t) :
    ∃ text, Codecs.decChars Codecs.utf8Step (Spec.render false doc) = some text ∧
      ((lex subs text).filter (·.kind == .tag)).map (·.val) = doc.map tagOf ∧
      ∀ t ∈ lex subs text, t.kind ≠ .error := by
  have hf := LexerBridge.wfFrom_facts hwf.sections
  obtain ⟨h1, h2⟩ := C20_headers subs hl hq _ (LexerBridge.benign_lexSecs doc texts hu hf hnd)
    (LexerBridge.document_lexSecs hwf hu)
  exact ⟨_, C20_rendered_text env cfg doc texts hwf hblank hu,
    h1.trans (LexerBridge.lexSecs_tags doc texts hu), h2⟩

/-- **Writer files.**  The same for the bytes any accepted program writes (composition with
`C02_conforms`). -/
theorem C20_writer_file (subs : Subs) (hl : SubsLossless subs) (hq : SubsQuiet subs)
    (env : Env) (cfg : Config) (enc : Name) (calls : List Writer.Call)
    (hok : ∀ r ∈ (Writer.run env cfg (some enc) (Text.ofAscii b!"1.0") calls).2, r = .ok)
    (laws : ProgramLaws env cfg enc calls) (texts : List Str)
    (hu : Utf8Doc (C02.docOf env cfg enc calls laws) texts) (hnd : ∀ t ∈ texts, NoHashDot t) :
    ∃ text, Codecs.decChars Codecs.utf8Step
        (Writer.run env cfg (some enc) (Text.ofAscii b!"1.0") calls).1.out = some text ∧
      ((lex subs text).filter (·.kind == .tag)).map (·.val) = (C02.docOf env cfg enc calls laws).map tagOf ∧
      ∀ t ∈ lex subs text, t.kind ≠ .error := by
  obtain ⟨hout, hwf, hcanon⟩ := C02.C02_conforms env cfg enc calls hok laws
  rw [hout]
  exact C20_rendered subs hl hq env cfg _ texts hwf (fun s hs => (hcanon s hs).1) hu hnd

/-! ## Non-vacuity: the closed program of `Properties/C01Run.lean` -/

theorem opaqueSubs_quiet : SubsQuiet opaqueSubs := by
  intro s t ht
  simp only [opaqueSubs, List.mem_append] at ht
  rcases ht with ht | ht <;> split at ht <;> simp at ht <;> subst ht <;> simp

/-- the texts of the six sections of `C02.runDoc` (ASCII, hence their own UTF-8 encoding) -/
def runTexts : List Str := [[], t!"  hi\n", [], [], t!"{}\n", t!"-a\n+b\n"]

theorem runTexts_utf8 : Utf8Doc C02.runDoc runTexts :=
  ⟨by decide +kernel, by decide +kernel, by decide +kernel, by decide +kernel, by decide +kernel,
    by decide +kernel, trivial⟩

theorem runTexts_noHashDot : ∀ t ∈ runTexts, NoHashDot t := by
  intro t ht
  apply noHashDot_of_check
  revert t
  decide +kernel

/-- the file of `C02.runBytes` as text -/
def runText : Str :=
  t!"#diffx: encoding=latin1, version=1.0\n#.preamble: indent=2, length=5, line_endings=unix, mimetype=text/plain\n  hi\n#.change:\n#..file: encoding=utf-8\n#...meta: format=json, length=3\n{}\n#...diff: length=6, line_endings=unix, type=text\n-a\n+b\n"

/-- `C20_writer_file` instantiated on the program `C01.runProg`: its hypotheses are satisfiable,
and the header tags are those of the six sections -/
theorem C20_writer_file_instance :
    ∃ text, Codecs.decChars Codecs.utf8Step
        (Writer.run C01.runEnv C01.cfg0 (some C01.runEnc) (Text.ofAscii b!"1.0") C01.runProg).1.out = some text ∧
      ((lex opaqueSubs text).filter (·.kind == .tag)).map (·.val) =
        [t!"#diffx:", t!"#.preamble:", t!"#.change:", t!"#..file:", t!"#...meta:", t!"#...diff:"] ∧
      ∀ t ∈ lex opaqueSubs text, t.kind ≠ .error := by
  have hu : Utf8Doc (C02.docOf C01.runEnv C01.cfg0 C01.runEnc C01.runProg C01.runLaws) runTexts := by
    rw [C02.runDoc_eq]; exact runTexts_utf8
  obtain ⟨text, h1, h2, h3⟩ := C20_writer_file opaqueSubs opaqueSubs_lossless opaqueSubs_quiet
    C01.runEnv C01.cfg0 C01.runEnc C01.runProg C01.runProg_ok C01.runLaws runTexts hu runTexts_noHashDot
  refine ⟨text, h1, ?_, h3⟩
  rw [h2, C02.runDoc_eq]
  rfl

set_option maxRecDepth 8192 in
/-- … the decoding is true by evaluation as well -/
example : Codecs.decChars Codecs.utf8Step C02.runBytes = some runText := by decide +kernel

set_option maxRecDepth 8192 in
/-- … and so are the tokens of the decoded file -/
example : ((lex opaqueSubs runText).filter (·.kind == .tag)).map (·.val) =
      [t!"#diffx:", t!"#.preamble:", t!"#.change:", t!"#..file:", t!"#...meta:", t!"#...diff:"] ∧
    ((lex opaqueSubs runText).all (·.kind != .error)) = true := by decide +kernel

/-- the hypothesis on the contents is needed: a `#.` sequence in a content ends the section for
the lexer; here the second line of a two-line preamble is taken for a header (a file of two
sections, three `tag` tokens) -/
example : ((lex opaqueSubs t!"#diffx: version=1.0\n#.preamble: length=12\na\n#.change:\n").filter
      (·.kind == .tag)).map (·.val) = [t!"#diffx:", t!"#.preamble:", t!"#.change:"] := by decide +kernel

end Diffx.C20
