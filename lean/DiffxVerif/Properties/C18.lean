import DiffxVerif.Lemmas.Heap
/-!
# C18 — Object-model instances are isolated and observers do not mutate

> No two sections or trees ever share mutable state: changing the metadata,
> options or content of one section, tree or parse result never changes another,
> however they were created (constructor defaults, add_change/add_file, repeated
> parses with one reader object, repeated serialisation with one writer object).
> Serialising, comparing and printing a tree leave it unchanged, and serialising
> the same tree twice gives identical bytes.

Object identity is run-time behaviour; `Model/Heap.lean` abstracts it to cell
ids and mirrors which Python expressions allocate (`default_options.copy()`,
`deepcopy(default_value)`, `[]`, `json.loads`) and which store a reference
supplied by the caller (`section.meta = d`).  The theorems are about that
allocation discipline for **every** operation history; the differential run
compares, after every step of random interleavings over several live trees, the
partition of `id()`s of the real objects with the partition of cell ids, and
which objects a mutation is visible through.  (**Partial**: what a theorem can
say about the code stops at the abstraction; aliasing itself is observed.)
-/
namespace Diffx.C18
open Diffx.Heap

/-- every cell in use was allocated: it is below the allocation counter -/
theorem C18_allocated (ops : List Op) :
    ∀ c ∈ allCells (run ops) ++ callerCells (run ops), c < (run ops).next := by
  intro c hc
  rcases List.mem_append.1 hc with h | h
  · exact (Inv_run ops).cells_lt c h
  · exact (Inv_run ops).callers_lt c h

/-- **No sharing.** After any history, a cell that is not a caller-supplied
dictionary is referenced from exactly one place among all sections of all live
trees — constructor defaults, `add_change` / `add_file` and repeated parses
never hand out the same mutable object twice. -/
theorem C18_no_sharing (ops : List Op) :
    ∀ c ∈ allCells (run ops), c ∉ callerCells (run ops) → (allCells (run ops)).count c = 1 := by
  intro c hc hn
  have h1 := (Inv_run ops).once c hn
  have h2 := List.count_pos_iff.2 hc
  omega

/-- hence two different live trees have no library-allocated cell in common:
mutating one (in place) is invisible from the other -/
theorem C18_isolation (ops : List Op) (i j : Nat) (ti tj : HTree) (hij : i ≠ j)
    (hi : (run ops).trees[i]? = some ti) (hj : (run ops).trees[j]? = some tj) :
    ∀ c ∈ treeCells ti, c ∉ callerCells (run ops) → c ∉ treeCells tj := by
  intro c hc hn hc'
  have h1 := (Inv_run ops).once c hn
  have h3 := List.count_pos_iff.2 hc
  have h4 := List.count_pos_iff.2 hc'
  rw [allCells_def] at h1
  rcases Nat.lt_or_gt_of_ne hij with h | h
  · have := count_add_le_flatMap treeCells c _ i j h hi hj
    omega
  · have := count_add_le_flatMap treeCells c _ j i h hj hi
    omega

/-- **Observers do not mutate**: serialising, comparing and printing change nothing. -/
theorem C18_observe (s : State) (t : Nat) : step s (.observe t) = s := rfl

/-- an in-place mutation never changes which object a slot refers to, allocates
nothing, and bumps the version of exactly one cell -/
theorem C18_mutate (s : State) (t : Nat) (p : Path) (sl : Slot) :
    (step s (.mutate t p sl)).trees = s.trees ∧ (step s (.mutate t p sl)).next = s.next ∧
    (step s (.mutate t p sl)).callers = s.callers := by
  simp only [step]
  split <;> exact ⟨rfl, rfl, rfl⟩

/-- a parse result shares nothing with the tree it was parsed from, nor with any
earlier parse through the same reader object (all its cells are new) -/
theorem C18_parse_fresh (s : State) (t : Nat) (tr : HTree) (h : s.trees[t]? = some tr)
    (hb : ∀ c ∈ allCells s ++ callerCells s, c < s.next) :
    ∃ n, (step s (.parse t)).trees = s.trees ++ [n] ∧ ∀ c ∈ treeCells n, s.next ≤ c := by
  -- `hb` is not needed for freshness itself; with it the conclusion says that the new tree is
  -- disjoint from everything older
  have _ := hb
  obtain ⟨k, h1, h2⟩ := copyChanges_spec tr.changes { s with next := s.next + 5 }
  simp only [step, h, newTreeCells_eq, h1]
  refine ⟨_, rfl, fun c hc => ?_⟩
  simp only [treeCells, h2, five_eq_range', List.range'_append_1, List.mem_range'_1] at hc
  exact hc.1

example : (allCells (run [.newTree, .newTree, .addChange 0, .addFile 0 0, .parse 0, .setMeta 0 .main 7,
    .setMeta 1 .main 7])).length = 35 := by decide

end Diffx.C18
