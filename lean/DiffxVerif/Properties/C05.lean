import DiffxVerif.Lemmas.DomRoundTrip
/-!
# C05 — Object model written then parsed gives back the same tree
# C06 — Parse then re-serialise: byte-identical on canonical files, idempotent on others

> C05: For every object-model tree that serialises without error, serialising and
> parsing it yields a tree with the same changes and files in the same order and,
> section by section, the same content and options as the original after the
> documented normalisation only (final line ending appended to text/diff, detected
> line_endings recorded, default preamble indent and metadata format recorded,
> empty content sections omitted). The serialised bytes are exactly the canonical
> serialisation of the tree.
>
> C06: For every file the library itself can produce, parsing it into the object
> model and serialising it again returns the identical bytes. For every
> well-formed file from another producer that the object model accepts,
> re-serialising succeeds, carries the same section contents, and is a fixed
> point: parsing and serialising the result again changes nothing.

`Dom.toBytes` / `Dom.fromBytes` (Model/Dom.lean) mirror `DiffX.to_bytes()` /
`DiffX.from_bytes()`.  What is proved here, for every tree / record list:
the serialisation is the streaming writer run on the tree's call sequence
(hence canonical by C02); the loader rebuilds the shape and places every
content and its options verbatim; which of its failures are library errors.
The whole write→parse and parse→write equalities compose these with the
section round trip of C01 (`C05_tree_roundtrip`, `C06_tree_fixed_point` in
Properties/C05Tree.lean).
-/
namespace Diffx.C05
open Diffx Diffx.Dom

/-- **Canonical serialisation.** `to_bytes` succeeds exactly when every section
can be prepared and the streaming writer accepts every call, and the bytes are
the streaming writer's output for the tree's call sequence. -/
theorem C05_canonical (env : Env) (cfg : Config) (wv : Text) (t : Tree) (b : Bytes)
    (h : toBytes env cfg wv t = .ok b) :
    ∃ enc ver calls, toCalls cfg.defaultIndent t wv = .ok (enc, ver, calls) ∧
      (Writer.run env cfg enc ver calls).1.out = b ∧
      ∀ r ∈ (Writer.run env cfg enc ver calls).2, r = .ok := by
  obtain ⟨enc, ver, calls, h1, h2, h3, -⟩ := DomRT.toBytes_is_run h
  exact ⟨enc, ver, calls, h1, h2, h3⟩

/-- sections with falsy content (absent / empty text, empty dictionary, empty
bytes) are omitted from the call sequence, all others appear in document order -/
theorem C05_skips_empty (di : Nat) (c : ContentSec) (h : c.content.truthy = false) :
    contentCall di c = .ok none :=
  contentCall_skip di h

/-- **The loader rebuilds the shape.** Loading the records of any file yields a
tree with one change per `.change` record and, in each, one file per `..file`
record that follows it, in order. -/
theorem C05_load_shape (rs : List Reader.Record) (t0 : Tree) (s : LoadSt)
    (h0 : t0.changes = [])
    (h : rs.foldlM loadRecord ⟨t0, .main⟩ = .ok s) :
    s.tree.changes.map (·.files.length) = shapeOf (rs.map (·.sec)) := by
  have := load_shape_from h
  simp only [treeShape, h0, List.map_nil] at this
  exact this

/-- **Options are carried verbatim** (minus `length`): the options of a loaded
content section are exactly the header's, integers as integers. -/
theorem C05_load_content_opts (o : Opts) (k : Bytes) (hk : k ≠ b!"length") :
    (contentOpts o).get k = (o.get k).map optToPy ∧ (contentOpts o).get b!"length" = none :=
  contentOpts_get o hk

/-- **Error family of loading.** The only failures of the loader itself are
library errors — and `TypeError` for a preamble the reader could not decode for
lack of any encoding (known finding D13b). -/
theorem C05_load_errors (s : LoadSt) (r : Reader.Record) (e : LoadErr) (h : loadRecord s r = .error e) :
    e = .library ∨ (e = .typeError ∧ r.sec.name = .preamble) ∨ e = .readerOther :=
  (loadRecord_error h).imp_right (Or.imp_right And.left)

/-- the loader proper never fails with `readerOther` on a reader's records: they come in hierarchy
order, so a preamble never follows a file, and their contents match their kind -/
theorem C05_load_no_other_records (env : Env) (cfg : Config) (data : Bytes) (t0 : Tree) :
    (Reader.readAll env cfg cfg.chunk data).1.foldlM loadRecord ⟨t0, .main⟩ ≠ .error .readerOther := by
  unfold Reader.readAll
  apply readLoop_load_ne_other
  refine ⟨?_, fun _ _ _ => .inl rfl⟩
  intro x hx
  simp only [Reader.Loop.init, List.mem_singleton] at hx
  subst hx
  decide

/-- … hence `from_bytes` ends with `readerOther` only when the streaming reader itself stopped on
the `split_lines` assertion (an empty encoded newline, excluded by `Reader.NlNonempty`) -/
theorem C05_load_no_other (env : Env) (cfg : Config) (wv : Text) (data : Bytes)
    (h : Dom.fromBytes env cfg wv data = .error .readerOther) :
    (Reader.readAll env cfg cfg.chunk data).2 = .assertion := by
  unfold fromBytes at h
  simp only at h
  split at h
  · rename_i e he
    injection h with h
    subst h
    exact absurd he (C05_load_no_other_records env cfg data _)
  · cases ho : (Reader.readAll env cfg cfg.chunk data).2 with
    | assertion => rfl
    | outOfFuel => exact absurd ho (Reader.readAll_not_outOfFuel env cfg cfg.chunk data)
    | _ =>
      rw [ho] at h
      cases h

/-- **Known finding D14** (C06): a well-formed foreign file whose content header
carries an option the writer has no parameter for loads fine but cannot be
re-serialised (`TypeError`). -/
theorem C06_unknown_option_witness :
    ∃ t : Tree, (∃ c ∈ [t.metaSec], c.opts.get b!"custom" = some (.str (tx b!"v"))) ∧
      ∀ env cfg wv, toBytes env cfg wv t = .error .typeError := by
  refine ⟨{ newTree (tx b!"utf-8") (tx b!"1.0") with
            metaSec := { newMeta with opts := newMeta.opts ++ [(b!"custom", .str (tx b!"v"))],
                                      content := .dict (.obj [(tx b!"k", .int 1)]) } }, ?_, ?_⟩
  · exact ⟨_, List.mem_singleton.2 rfl, rfl⟩
  · intro env cfg wv
    rfl

end Diffx.C05
