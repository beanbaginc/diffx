import DiffxVerif.Lemmas.Stats
import DiffxVerif.Lemmas.Split
import DiffxVerif.Properties.C14
/-!
# C13 — Generated statistics are exact, additive, idempotent and non-destructive

> After statistics are generated on a tree, every file with a text diff reports
> insertions and deletions equal to the number of "+" and "-" lines inside the
> hunks of its diff (whatever its declared line endings and encoding) and lines
> changed equal to their sum; every change reports its file count and the sums of
> the figures its files report; the file as a whole reports the change count and
> the sums over changes. Binary, empty, absent and unparsable diffs are not
> analysed and keep whatever statistics they already had, custom statistics keys
> and all other metadata are preserved, and generating twice equals generating
> once.

`Dom.FileSec.genStats`, `Dom.ChangeSec.genStats`, `Dom.Tree.genStats`
(Model/Dom.lean) mirror `generate_stats` of the three container classes.
-/
namespace Diffx.C13
open Diffx Diffx.Dom Diffx.HunkSpec

/-- the bytes of a diff made of hunks (each preceded by non-hunk lines) and
trailing non-hunk lines, every line terminated by `nl` -/
def diffBytes (nl : Bytes) (segs : List (List Bytes × Spec)) (tail : List Bytes) : Bytes :=
  ((segs.flatMap (fun sg => sg.1 ++ sg.2.render) ++ tail).map (· ++ nl)).flatten

/-- **Exact file counts.** A text diff assembled from well-formed hunks with
garbage lines between them, with any unbordered newline `nl` that the file's
declared (or detected) line endings and encoding resolve to and that does not
occur inside a line: the file reports exactly the numbers of `-` and `+` lines
inside the hunks, and their sum. -/
theorem C13_file (env : Env) (cfg : Config) (f : FileSec) (nl : Bytes)
    (segs : List (List Bytes × Spec)) (tail : List Bytes)
    (hd : f.diff.content = .bytes (diffBytes nl segs tail))
    (hne : segs ≠ [] ∨ tail ≠ [])
    (hbin : (f.diff.opts.get b!"type").elim false (fun v => v.pyEq (.str (tx b!"binary"))) = false)
    (hnl : statsNewline env cfg f (diffBytes nl segs tail) = .ok nl)
    (hn : nl ≠ []) (hu : Unbordered nl)
    (hfree : ∀ l ∈ segs.flatMap (fun sg => sg.1 ++ sg.2.render) ++ tail, NlFree nl l)
    (hw : ∀ sg ∈ segs, sg.2.WF) (hg : ∀ sg ∈ segs, ∀ g ∈ sg.1, NonHunk g) (ht : ∀ g ∈ tail, NonHunk g)
    (m : PyVal) (hm : mergeStats f.metaSec.content
        (fileStats ((segs.map (·.2.deletes)).sum) ((segs.map (·.2.inserts)).sum)) = .ok m) :
    f.genStats env cfg = .ok { f with metaSec := { f.metaSec with content := m } } := by
  have hl : segs.flatMap (fun sg => sg.1 ++ sg.2.render) ++ tail ≠ [] := by
    rcases hne with h | h
    · obtain ⟨sg, rest, rfl⟩ := List.exists_cons_of_ne_nil h
      simp [Spec.render]
    · simp [h]
  have hdne : (diffBytes nl segs tail).isEmpty = false := by
    obtain ⟨l, rest, e⟩ := List.exists_cons_of_ne_nil hl
    obtain ⟨a, nl', rfl⟩ := List.exists_cons_of_ne_nil hn
    unfold diffBytes
    rw [e]
    cases l <;> simp
  have hp := C14.C14_geometry segs tail hw hg ht
  simp only [C14.renderAll, C14.totalDeletes, C14.totalInserts] at hp
  rw [file_genStats_run hd hdne hbin hnl (List.isEmpty_eq_false_iff.2 hn)]
  unfold diffBytes
  rw [splitLines_of_lines nl hn hu _ hl hfree false, if_neg Bool.false_ne_true, hp]
  exact (congrArg (· >>= _) hm).trans rfl

/-- **Not analysed.** Absent, empty and binary diffs, and diffs the hunk parser
rejects, leave the file exactly as it was. -/
theorem C13_skip (env : Env) (cfg : Config) (f : FileSec)
    (h : (∀ b, f.diff.content ≠ .bytes b) ∨ f.diff.content = .bytes [] ∨
         (f.diff.opts.get b!"type").elim false (fun v => v.pyEq (.str (tx b!"binary"))) = true) :
    f.genStats env cfg = .ok f := by
  by_cases hx : ∃ diff, f.diff.content = .bytes diff
  · obtain ⟨diff, hd⟩ := hx
    rw [file_genStats_bytes hd]
    rcases h with h | h | h
    · exact absurd hd (h diff)
    · cases hd.symm.trans h
      rfl
    · rw [show isBinary f = true from h]
      cases diff.isEmpty <;> rfl
  · exact file_genStats_other (fun b hb => hx ⟨b, hb⟩)

theorem C13_skip_unparsable (env : Env) (cfg : Config) (f : FileSec) (diff nl : Bytes)
    (hd : f.diff.content = .bytes diff)
    (hnl : statsNewline env cfg f diff = .ok nl)
    (hp : ∃ n l k, Hunks.parse (splitLines diff nl false) true = .malformed n l k) :
    f.genStats env cfg = .ok f := by
  obtain ⟨n, l, k, hp⟩ := hp
  -- every branch below the newline gives `.ok f`
  rw [file_genStats_bytes hd, hnl, Except.ok_bind, hp]
  simp only [ite_self]

/-- **Merge is non-destructive.** Keys of an existing `stats` dictionary that are
not computed, and every other metadata key, survive; computed keys get the new
values. -/
theorem C13_keep (m : List (Text × Json)) (stats : List (Text × Json)) (hs : (stats.map (·.1)).Nodup)
    (m' : PyVal) (h : mergeStats (.dict (.obj m)) stats = .ok m') :
    ∃ l, m' = .dict (.obj l) ∧
      (∀ k, k ≠ tx b!"stats" → objGet l k = objGet m k) ∧
      ∃ st, objGet l (tx b!"stats") = some (.obj st) ∧
        (∀ p ∈ stats, objGet st p.1 = some p.2) ∧
        (∀ k, k ∉ stats.map (·.1) → ∀ old, objGet m (tx b!"stats") = some (.obj old) → objGet st k = objGet old k) := by
  obtain ⟨m₀, st, e, rfl, hh, hst⟩ := mergeStats_ok hs h
  cases e
  refine ⟨_, rfl, fun k hk => by rw [objGet_objSet, if_neg hk], st, by rw [objGet_objSet, if_pos rfl],
    fun p hp => objGet_of_holds (hh p hp), fun k hk old ho => ?_⟩
  rcases hst with hn | ⟨old', ho', rfl⟩
  · rw [hn] at ho
    cases ho
  · cases ho'.symm.trans ho
    exact objGet_foldl_notin stats old k hk

/-- **Additive (change).** After generation a change reports its number of files
and, for each figure, the sum of what its files report. -/
theorem C13_change (env : Env) (cfg : Config) (c c' : ChangeSec) (h : c.genStats env cfg = .ok c') :
    ∃ files, c.files.mapM (FileSec.genStats env cfg) = .ok files ∧ c'.files = files ∧
      statOf c'.metaSec.content (tx b!"files") = .ok files.length ∧
      ∀ k ∈ [tx b!"insertions", tx b!"deletions", tx b!"lines changed"],
        ∃ vs, files.mapM (fun f => statOf f.metaSec.content k) = .ok vs ∧
          statOf c'.metaSec.content k = .ok vs.sum := by
  obtain ⟨files, ins, del, ch, m, h1, h2, h3, h4, h5, rfl⟩ := change_genStats_ok h
  have hs := changeFigures_nodup del files.length ins ch
  -- memberships by position: `changeFigures` lists deletions, files, insertions, lines changed
  refine ⟨files, h1, rfl, statOf_merge hs h5 (.tail _ (.head _)), ?_⟩
  intro k hk
  rcases hk with _ | ⟨_, _ | ⟨_, _ | ⟨_, hk⟩⟩⟩
  · exact statOf_sum h2 hs h5 (.tail _ (.tail _ (.head _)))
  · exact statOf_sum h3 hs h5 (.head _)
  · exact statOf_sum h4 hs h5 (.tail _ (.tail _ (.tail _ (.head _))))
  · cases hk

/-- **Additive (whole file).** The tree reports the number of changes and the
sums over its changes. -/
theorem C13_top (env : Env) (cfg : Config) (t t' : Tree) (h : t.genStats env cfg = .ok t') :
    ∃ changes, t.changes.mapM (ChangeSec.genStats env cfg) = .ok changes ∧ t'.changes = changes ∧
      statOf t'.metaSec.content (tx b!"changes") = .ok changes.length ∧
      ∀ k ∈ [tx b!"files", tx b!"insertions", tx b!"deletions", tx b!"lines changed"],
        ∃ vs, changes.mapM (fun c => statOf c.metaSec.content k) = .ok vs ∧
          statOf t'.metaSec.content k = .ok vs.sum := by
  obtain ⟨changes, del, files, ins, ch, m, h1, h2, h3, h4, h5, h6, rfl⟩ := tree_genStats_ok h
  have hs := treeFigures_nodup changes.length del files ins ch
  -- memberships by position: `treeFigures` lists changes, deletions, files, insertions, lines changed
  refine ⟨changes, h1, rfl, statOf_merge hs h6 (.head _), ?_⟩
  intro k hk
  rcases hk with _ | ⟨_, _ | ⟨_, _ | ⟨_, _ | ⟨_, hk⟩⟩⟩⟩
  · exact statOf_sum h3 hs h6 (.tail _ (.tail _ (.head _)))
  · exact statOf_sum h4 hs h6 (.tail _ (.tail _ (.tail _ (.head _))))
  · exact statOf_sum h2 hs h6 (.tail _ (.head _))
  · exact statOf_sum h5 hs h6 (.tail _ (.tail _ (.tail _ (.tail _ (.head _)))))
  · cases hk

/-- nothing but the metadata contents is touched: options, preambles, diffs and
the shape of the tree are unchanged -/
theorem C13_only_meta (env : Env) (cfg : Config) (t t' : Tree) (h : t.genStats env cfg = .ok t') :
    t'.opts = t.opts ∧ t'.preamble = t.preamble ∧ t'.metaSec.opts = t.metaSec.opts ∧
    t'.changes.length = t.changes.length := by
  obtain ⟨changes, del, files, ins, ch, m, h1, _, _, _, _, _, rfl⟩ := tree_genStats_ok h
  exact ⟨rfl, rfl, rfl, Except.mapM_length h1⟩

/-- **Idempotent.** Generating twice equals generating once. -/
theorem C13_idem (env : Env) (cfg : Config) (t t' : Tree) (h : t.genStats env cfg = .ok t') :
    t'.genStats env cfg = .ok t' := by
  obtain ⟨changes, del, files, ins, ch, m, h1, h2, h3, h4, h5, h6, rfl⟩ := tree_genStats_ok h
  unfold Tree.genStats
  dsimp only [sumOver] at h2 h3 h4 h5 ⊢
  rw [Except.mapM_fixed change_genStats_idem h1, Except.ok_bind, h2, Except.ok_bind, h3, Except.ok_bind, h4, Except.ok_bind, h5, Except.ok_bind]
  exact (congrArg (· >>= _) (mergeStats_idem (treeFigures_nodup _ _ _ _ _) h6)).trans rfl

/-! ## Known defect: multi-byte encodings are not decoded before parsing

`generate_stats` resolves the newline through the diff's declared encoding but
hands the *raw, still encoded* lines to the hunk parser, which looks for the
ASCII bytes `@@`, `-`, `+`.  With a UTF-16-LE diff no header is recognised, the
whole diff is "garbage", and zeros are stored. -/

/-- an environment whose codecs all behave like UTF-16-LE on ASCII text -/
def utf16Env : Env :=
  { canon := fun n => .ok n
    encode := fun _ t => .ok (t.flatMap fun c => [c.toUInt8, 0])
    decode := fun _ b => .ok (b.map (·.toNat))
    loadsText := fun _ => .ok (.obj [])
    loadsBytes := fun _ => .ok (.obj [])
    dumps := fun _ => .ok [] }

def witnessCfg : Config := { chunk := 96, boms := [], defaultIndent := 4, defaultEncoding := [] }

/-- `"@@ -1 +1 @@\n-a\n+b\n".encode('utf-16-le')`: one deletion, one insertion -/
def utf16Diff : Bytes := (b!"@@ -1 +1 @@\n-a\n+b\n").flatMap fun c => [c, 0]

def utf16File : FileSec :=
  { newFile with diff := ⟨.diff, [(b!"encoding", .str (tx b!"utf-16-le"))], .bytes utf16Diff⟩ }

/-- **Witness (known defect).** The UTF-16-LE diff with one `-` and one `+` line
is split on the right newline (`\n\0`), parsed without error, and reported as
`0` deletions, `0` insertions, `0` lines changed — whereas the hunk parser
counts `1` and `1` on the same lines once decoded. -/
theorem C13_multibyte_witness :
    statsNewline utf16Env witnessCfg utf16File utf16Diff = .ok [10, 0] ∧
    utf16File.genStats utf16Env witnessCfg =
      .ok { utf16File with metaSec := { utf16File.metaSec with
              content := .dict (.obj [(tx b!"stats", .obj (fileStats 0 0))]) } } ∧
    Hunks.parse [b!"@@ -1 +1 @@", b!"-a", b!"+b"] true =
      .ok { hunks := [{ context := none,
                        orig := { first := some 0, last := some 0, numLines := 1, changed := 1, start := 0 },
                        modified := { first := some 0, last := some 0, numLines := 1, changed := 1, start := 0 },
                        pre := 0, post := 0 }],
            processed := 3, deletes := 1, inserts := 1 } :=
  ⟨rfl, rfl, by decide⟩

end Diffx.C13
