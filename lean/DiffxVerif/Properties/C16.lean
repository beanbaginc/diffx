import DiffxVerif.Lemmas.Split
/-!
# C16 — Line splitting is lossless and consistent between its two modes

> For every non-empty byte string and every newline sequence the library uses,
> splitting with line ends kept and concatenating returns the original bytes;
> every returned line except possibly the last ends with the newline and
> contains it nowhere else; the number of lines equals the number of newline
> occurrences, plus one if the data does not end with a newline; and splitting
> without line ends equals the kept-ends result with exactly one trailing
> newline removed from each terminated line.

All theorems are about `Diffx.splitLines`, the model of
`pydiffx.utils.text.split_lines`, for **every** list `data` over any type with
decidable equality and **every** non-empty *unbordered* newline `nl` (no
proper prefix of `nl` is a suffix of `nl`).  `C16_library_newlines` shows that
the ten newline byte sequences the library can produce for LF / CRLF in 8-bit,
UTF-16 and UTF-32 encodings (both byte orders) satisfy the hypothesis, so the
hypotheses are not vacuous.  (For a bordered "newline" such as `aa` the
statements are false of the Python code as well: `b'aaa'.split(b'aa')`.)
-/
namespace Diffx.C16
open Diffx
variable {α : Type} [DecidableEq α]

/-- splitting with ends kept and concatenating returns the original bytes -/
theorem C16_join (nl data : List α) (hn : nl ≠ []) (hu : Unbordered nl) :
    (splitLines data nl true).flatten = data := by
  obtain ⟨init, last, h⟩ := pySplit_decomp data hn hu
  rw [h.keep]
  by_cases hs : nl <:+ data
  · obtain ⟨rfl, _⟩ := h.suffix_iff.mp hs
    simp only [hs, if_true, List.append_nil]
    simpa using h.data_eq.symm
  · simp only [hs, if_false, List.flatten_append, List.flatten_cons, List.flatten_nil,
      List.append_nil]
    exact h.data_eq.symm

/-- every returned line except possibly the last ends with the newline -/
theorem C16_ends (nl data : List α) (hn : nl ≠ []) (hu : Unbordered nl) :
    ∀ l ∈ (splitLines data nl true).dropLast, nl <:+ l := by
  obtain ⟨init, last, h⟩ := pySplit_decomp data hn hu
  rw [h.keep]
  intro l hl
  have hl' : l ∈ init.map (· ++ nl) := by
    by_cases hs : nl <:+ data
    · simp only [hs, if_true, List.append_nil] at hl
      exact List.dropLast_subset _ hl
    · simpa [hs, List.dropLast_concat] using hl
  obtain ⟨x, _, rfl⟩ := List.mem_map.mp hl'
  exact List.suffix_append _ _

/-- the last line ends with the newline exactly when the data does -/
theorem C16_last (nl data : List α) (hn : nl ≠ []) (hu : Unbordered nl) (hd : data ≠ []) :
    ∃ l, (splitLines data nl true).getLast? = some l ∧ (nl <:+ l ↔ nl <:+ data) := by
  have _ := hd    -- not needed: the statement holds of the empty string as well
  obtain ⟨init, last, h⟩ := pySplit_decomp data hn hu
  rw [h.keep]
  by_cases hs : nl <:+ data
  · obtain ⟨_, hi⟩ := h.suffix_iff.mp hs
    obtain ⟨init', y, rfl⟩ := exists_concat_of_ne_nil hi
    refine ⟨y ++ nl, by simp [hs], ?_⟩
    simp [hs, List.suffix_append]
  · refine ⟨last, by simp [hs], ?_⟩
    simp [hs, h.last_free.not_suffix]

/-- … and contains it nowhere else: any occurrence of `nl` in a returned line is
the one at its very end -/
theorem C16_once (nl data : List α) (hn : nl ≠ []) (hu : Unbordered nl) :
    ∀ l ∈ splitLines data nl true, ∀ i, nl <+: l.drop i → i + nl.length = l.length := by
  obtain ⟨init, last, h⟩ := pySplit_decomp data hn hu
  rw [h.keep]
  intro l hl i hp
  rcases List.mem_append.mp hl with hl | hl
  · obtain ⟨x, hx, rfl⟩ := List.mem_map.mp hl
    exact once_of_free hn hu (h.init_free x hx) hp
  · by_cases hs : nl <:+ data
    · simp [hs] at hl
    · simp only [hs, if_false, List.mem_singleton] at hl
      subst hl
      exact absurd hp (h.last_free i)

/-- the number of lines equals the number of newline occurrences (counted by an
independent left-to-right scan, Python's `bytes.count`), plus one if the data
does not end with a newline -/
theorem C16_count (nl data : List α) (hn : nl ≠ []) (hu : Unbordered nl) (hd : data ≠ []) :
    (splitLines data nl true).length = countOcc nl data + (if nl <:+ data then 0 else 1) := by
  have _ := hu    -- neither is needed: the count is right for a bordered separator and for empty data too
  have _ := hd
  exact splitLines_keep_length data hn

/-- `countOcc` really is "the number of occurrences": for an unbordered newline
every position at which `nl` occurs is counted -/
theorem C16_count_all (nl data : List α) (hn : nl ≠ []) (hu : Unbordered nl) :
    countOcc nl data = ((List.range (data.length + 1)).filter (fun i => nl.isPrefixOf (data.drop i))).length := by
  rw [occAll_eq_filter hn, countOcc]
  exact countGo_eq_occAll hu data 0 (fun i hi => by omega)

/-- splitting without line ends = kept-ends result with exactly one trailing
newline removed from each terminated line -/
theorem C16_modes (nl data : List α) (hn : nl ≠ []) (hu : Unbordered nl) :
    splitLines data nl false = (splitLines data nl true).map (stripOneEnd nl) := by
  obtain ⟨init, last, h⟩ := pySplit_decomp data hn hu
  rw [h.keep, h.drop]
  have e : (init.map (· ++ nl)).map (stripOneEnd nl) = init := by
    rw [List.map_map]
    exact List.map_id'' (stripOneEnd_append nl) init
  rw [List.map_append, e]
  by_cases hs : nl <:+ data
  · simp [hs]
  · simp [hs, stripOneEnd_free h.last_free]

/-- both modes return the same number of lines -/
theorem C16_modes_length (nl data : List α) (hn : nl ≠ []) (hu : Unbordered nl) :
    (splitLines data nl false).length = (splitLines data nl true).length := by
  rw [C16_modes nl data hn hu, List.length_map]

/-- The newline byte sequences the library uses: LF and CRLF in 8-bit
encodings, UTF-16-LE/BE, UTF-32-LE/BE (BOM-free). -/
def libraryNewlines : List Bytes :=
  [[10], [13, 10],
   [10, 0], [13, 0, 10, 0], [0, 10], [0, 13, 0, 10],
   [10, 0, 0, 0], [13, 0, 0, 0, 10, 0, 0, 0], [0, 0, 0, 10], [0, 0, 0, 13, 0, 0, 0, 10]]

/-- non-vacuity: every library newline meets the hypotheses of the theorems -/
theorem C16_library_newlines : ∀ nl ∈ libraryNewlines, nl ≠ [] ∧ Unbordered nl := by decide +kernel

/-- a concrete instance (a test, not the claim): UTF-16-LE text with a
misaligned `0A 00` inside a character -/
example : splitLines ([65, 10, 10, 0, 0x0A, 0x41, 10, 0, 66, 0] : Bytes) [10, 0] true
    = [[65, 10, 10, 0], [0x0A, 0x41, 10, 0], [66, 0]] := by decide +kernel

end Diffx.C16
