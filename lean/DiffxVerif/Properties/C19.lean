import DiffxVerif.Lemmas.Dom
/-!
# C19 — Typed attributes validate atomically; equality is structural and congruent

> Assigning through a typed attribute either stores a value of the declared type
> and allowed choice or raises and leaves the whole tree unchanged; unknown
> constructor attributes are rejected. Two trees compare equal exactly when they
> have the same shape and, section by section, equal options and content; equal
> trees serialise to identical bytes, and changing any single option or content
> anywhere makes them unequal.

`Dom.setOption`, `ContentSec.setAttr`, `Tree/ChangeSec/FileSec.setAttr` mirror
`OptionProperty.__set__`, the content setter and the forwarding descriptors
(type check, choice check, then store); `*.pyEq` mirror the three `__eq__`
levels with Python value equality.  The result type of an assignment is
`Except SetErr _`: a failed assignment has no resulting tree at all — that the
real setters raise *before* storing is what the differential run checks with
snapshots around every assignment.
-/
namespace Diffx.C19
open Diffx Diffx.Dom

/-- a typed option assignment succeeds exactly for a value of the declared type
that is, when the option has choices, one of them -/
theorem C19_option_iff (p : OptionProp) (o : DOpts) (v : PyVal) :
    (∃ o', setOption p o v = .ok o') ↔
      (hasType v p.type = true ∧ ∀ cs t, p.choices = some cs → v = .str t → t ∈ cs) := by
  rcases setOption_cases p o v with ⟨ht, e⟩ | ⟨ht, ⟨cs, t, hc, hv, hn⟩, e⟩ | ⟨ht, hall, e⟩ <;> rw [e]
  · simp [ht]
  · exact ⟨fun ⟨_, h⟩ => (nomatch h), fun h => absurd (h.2 cs t hc hv) hn⟩
  · exact ⟨fun _ => ⟨ht, hall⟩, fun _ => ⟨_, rfl⟩⟩

/-- … and then stores exactly that value under the option's name, leaving every
other option as it was -/
theorem C19_option_stores (p : OptionProp) (o o' : DOpts) (v : PyVal) (h : setOption p o v = .ok o') :
    o'.get p.option = some v ∧ ∀ k, k ≠ p.option → o'.get k = o.get k := by
  rw [setOption_ok h]
  exact ⟨DOpts.get_set_self _ _ _, fun k hk => DOpts.get_set_ne _ _ hk⟩

/-- the error says why: wrong type first, then wrong choice -/
theorem C19_option_errors (p : OptionProp) (o : DOpts) (v : PyVal) (e : SetErr) (h : setOption p o v = .error e) :
    (e = .optionType ∧ hasType v p.type = false) ∨ (e = .optionChoice ∧ hasType v p.type = true) := by
  rcases setOption_cases p o v with ⟨ht, e'⟩ | ⟨ht, _, e'⟩ | ⟨_, _, e'⟩ <;> rw [e'] at h <;> cases h
  · exact .inl ⟨rfl, ht⟩
  · exact .inr ⟨rfl, ht⟩

/-- content assignment: accepted exactly for the section's data type -/
theorem C19_content_iff (c : ContentSec) (v : PyVal) :
    (∃ c', c.setAttr b!"content" v = .ok c') ↔ hasType v (contentType c.kind) = true := by
  unfold ContentSec.setAttr
  rw [if_pos rfl]
  cases hasType v (contentType c.kind) <;> simp

theorem C19_content_stores (c c' : ContentSec) (v : PyVal) (h : c.setAttr b!"content" v = .ok c') :
    c'.content = v ∧ c'.opts = c.opts ∧ c'.kind = c.kind := by
  unfold ContentSec.setAttr at h
  rw [if_pos rfl] at h
  split at h
  · injection h with h; subst h; exact ⟨rfl, rfl, rfl⟩
  · cases h

/-- an attribute name that is neither an option of the main section nor a
forwarded attribute is rejected (constructor keyword arguments go through the
same `setattr`) -/
theorem C19_unknown (t : Tree) (name : Bytes) (v : PyVal)
    (hn : name ∉ [b!"encoding", b!"version", b!"preamble", b!"preamble_encoding", b!"preamble_indent",
                  b!"preamble_line_endings", b!"preamble_mimetype", b!"meta", b!"meta_encoding", b!"meta_format"]) :
    t.setAttr name v = .error .unknown := by
  unfold Tree.setAttr
  -- `encoding` and `version` are the first two of the list
  rw [if_neg fun (e : name = _) => hn (e ▸ .head _),
    if_neg fun (e : name = _) => hn (e ▸ .tail _ (.head _))]
  cases hf : forwards.lookup name with
  | none => rfl
  | some p =>
    obtain ⟨sub, a⟩ := p
    cases sub with
    | diff => rfl
    | preamble | metadata =>
      -- every forwarding attribute that does not point to the diff section (which the main section
      -- does not have) is in the list
      refine absurd ?_ hn
      exact (by decide +kernel : ∀ p ∈ forwards, p.2.1 ≠ .diff → p.1 ∈ _) _ (Assoc.lookup_mem hf) nofun

/-- a successful assignment on the main section changes only the addressed
section: changes, and the other subsections, are untouched -/
theorem C19_local (t t' : Tree) (name : Bytes) (v : PyVal) (h : t.setAttr name v = .ok t') :
    t'.changes = t.changes ∧
    ((t'.opts = t.opts ∧ t'.metaSec = t.metaSec) ∨ (t'.opts = t.opts ∧ t'.preamble = t.preamble) ∨
     (t'.preamble = t.preamble ∧ t'.metaSec = t.metaSec)) := by
  unfold Tree.setAttr at h
  split at h
  · obtain ⟨o, _, rfl⟩ := map_ok h
    exact ⟨rfl, .inr (.inr ⟨rfl, rfl⟩)⟩
  · split at h
    · obtain ⟨o, _, rfl⟩ := map_ok h
      exact ⟨rfl, .inr (.inr ⟨rfl, rfl⟩)⟩
    · split at h
      · obtain ⟨o, _, rfl⟩ := map_ok h
        exact ⟨rfl, .inl ⟨rfl, rfl⟩⟩
      · obtain ⟨o, _, rfl⟩ := map_ok h
        exact ⟨rfl, .inr (.inl ⟨rfl, rfl⟩)⟩
      · cases h

/-- **well keyed** trees: in every `options` dict and in every JSON object of every
`dict` value (option values and contents) the keys are pairwise distinct — what
Python dictionaries guarantee by construction; the model's association lists
do not, so it is a hypothesis here (`Dom.WellKeyed`, Lemmas/Dom.lean) -/
def Keyed (t : Tree) : Prop := WellKeyed t

/-- **plain** trees: well keyed, and no opaque object (`PyVal.other`: a list, a
float, … — never `==` to anything in the model, itself included) is stored as an
option value or as a content.  `bool`, `int`, `None`, `str`, `bytes` and `dict`
values are all allowed (`Dom.PlainTree`, Lemmas/Dom.lean); e.g. every `newTree` is plain. -/
def Plain (t : Tree) : Prop := PlainTree t

theorem Plain.keyed {t : Tree} (h : Plain t) : Keyed t := PlainTree.wellKeyed h

/-- **Equality is reflexive** on plain trees and **symmetric** on well-keyed trees.
Without unique keys both fail in the model: with `a.opts = [(k,1),(k,1)]` and
`b.opts = [(k,1),(j,2)]`, `a == b` but not `b == a`; and a `dict` content
`{k: 1, k: 2}` (as an association list) is not `==` to itself. -/
theorem C19_eq_refl (t : Tree) (h : Plain t) : t.pyEq t = true := by
  unfold Tree.pyEq
  rw [DOpts.pyEq_refl h.1, ContentSec.pyEq_refl h.2.1, ContentSec.pyEq_refl h.2.2.1,
    listEq_refl _ _ (fun c hc => ChangeSec.pyEq_refl (h.2.2.2 c hc))]; rfl
theorem C19_eq_symm (a b : Tree) (ha : Keyed a) (hb : Keyed b) : a.pyEq b = b.pyEq a := by
  unfold Tree.pyEq
  rw [DOpts.pyEq_symm ha.1 hb.1, ContentSec.pyEq_symm ha.2.1 hb.2.1, ContentSec.pyEq_symm ha.2.2.1 hb.2.2.1,
    listEq_symm _ _ _ (fun x hx y hy => ChangeSec.pyEq_symm (ha.2.2.2 x hx) (hb.2.2.2 y hy))]

/-- **Equal ⇒ same shape**: the same numbers of changes and of files per change -/
theorem C19_eq_shape (a b : Tree) (h : a.pyEq b = true) :
    a.changes.map (·.files.length) = b.changes.map (·.files.length) := by
  unfold Tree.pyEq at h
  simp only [Bool.and_eq_true] at h
  refine listEq_map ChangeSec.pyEq _ _ _ (fun x y hxy => ?_) h.2
  unfold ChangeSec.pyEq at hxy
  simp only [Bool.and_eq_true] at hxy
  have := listEq_map FileSec.pyEq (fun _ => ()) _ _ (fun _ _ _ => rfl) hxy.2
  simpa using congrArg List.length this

/-- **Any single content change is seen**: replacing the content of any content
section by a value that is not `==` to the old one makes the trees unequal
(stated for the main sections and, through `listEq`, inherited by every depth) -/
theorem C19_perturb_content (t : Tree) (v : PyVal) (h : t.preamble.content.pyEq v = false) :
    t.pyEq { t with preamble := { t.preamble with content := v } } = false := by
  unfold Tree.pyEq ContentSec.pyEq
  simp [h]

/-- **Any single option change is seen** -/
theorem C19_perturb_option (t : Tree) (k : Bytes) (v v' : PyVal) (hu : (t.opts.map (·.1)).Nodup)
    (hk : t.opts.get k = some v) (hne : v.pyEq v' = false) :
    t.pyEq { t with opts := t.opts.set k v' } = false := by
  unfold Tree.pyEq
  simp only
  rw [DOpts.pyEq_set_ne hk hne]; rfl

/-- **Known finding D16** (the full "equal ⇔ identical, hence identical bytes" is
false of code and model): Python's `1 == True`, so two trees whose metadata
differ only in `1` vs `True` compare equal although they serialise differently
(`1` vs `true` in the JSON). -/
theorem C19_bool_witness :
    ∃ a b : Tree, a.pyEq b = true ∧ a.metaSec.content.same b.metaSec.content = false :=
  ⟨{ newTree [] [] with metaSec := { newMeta with content := .dict (.obj [(tx b!"a", .int 1)]) } },
   { newTree [] [] with metaSec := { newMeta with content := .dict (.obj [(tx b!"a", .bool true)]) } },
   by simp [Tree.pyEq, newTree, newMeta, newPreamble, ContentSec.pyEq, DOpts.pyEq, DOpts.get, PyVal.pyEq,
        jsonPyEq, jsonPyEqObj, jsonPyEqFind, listEq, List.lookup],
   by simp [PyVal.same]; decide⟩

end Diffx.C19
