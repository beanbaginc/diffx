import DiffxVerif.Lemmas.ConcreteRun
import DiffxVerif.Model.JsonDom
import DiffxVerif.Properties.C01Faithful
/-!
# C01 (concrete codecs) — the whole-run round trip with no hypothesis about codecs

> Whatever sequence of sections a program writes with the streaming writer, reading the produced
> bytes back with the streaming reader yields exactly one record per written section, in order,
> with the same section id and nesting level … and content equal to what was written … for every
> combination of section encodings, indentation and line endings.

`Properties/C01Run.lean` proves the round trip of every accepted program under `ProgramLaws`
(pointwise laws about the environment: `TextLaws`, `MetaLaws`, `DiffLaws`, `NameOk`);
`Properties/C01Faithful.lean` identifies the contents under `ProgramFaithfulFrom` and proves the
codec laws for the executable codecs of `Model/Codecs.lean`.  This file discharges **every** one of
those hypotheses from the single fact that the writer accepted the program
(`C01_laws_of_accepted`), for the environment `Codecs.env dumps loadsText loadsBytes`, `Codecs.cfg`
(the BOM table of the repository).  In `C01_run_concrete` the contents read back are
`calls.map contentOfCall`, the section ids `SecId.main :: secIds 1 calls`: functions of the calls'
arguments only (no law, no writer state, no environment; for a diff the newline bytes come from the
codec).

## What is assumed

* `JsonLaws Dom dumps loadsText` (Lemmas/ConcreteRun.lean) — three facts about `json.dumps` /
  `json.loads` on the dicts of a domain `Dom` — is the only hypothesis about the environment that
  is left.  The laws are false of CPython for some values of the model's `Json` (a string in which
  a high surrogate is directly followed by a low one comes back as one astral character; a list of
  items with duplicate or unsorted keys is no Python dict), hence the domain: for CPython `Dom` is
  `Json.Representable` (Model/JsonDom.lean).
  `JsonLaws.ascii` cannot be dropped.  Metadata is the only place where the *reader* guesses the
  line ending (no `line_endings` option is written); its guess on the encoded bytes agrees with the
  writer's guess on the text because the dumped text is ASCII without CR.  With a `dumps` that
  emitted non-ASCII text (`ensure_ascii=False`) a UTF-16 section can contain a misaligned CRLF and
  the reader rejects what the writer accepted (`C01_json_ascii_needed`).
* `hsize`: the bytes written fit one `fp.read` (`≤ Reader.maxRead = 2⁶³ − 1`; the reader raises
  `OverflowError` on a larger `length`).
* `DictArgs calls`: every `Arg.dict j` argument is a JSON object.  `Arg.dict` stands for a Python
  `dict`, but the type allows `.dict (.int 1)`; the model writer dumps it and the reader rejects
  what `json.loads` gives back (`C01_dict_arg_artefact`).  No Python program can do that.
* `DictsIn Dom calls`: every `Arg.dict j` argument lies in the domain `Dom` on which `JsonLaws` is
  assumed.  (With `Dom := fun _ => True`, laws assumed of every dict, it is `dictsIn_true`.)
-/
namespace Diffx.C01
open Diffx Diffx.RunRT Diffx.Codecs

section Concrete
variable {Dom : Json → Prop} (dumps : Json → EnvR Text) (loadsText : Text → EnvR Json) (loadsBytes : Bytes → EnvR Json)

/-- **The laws of one call, from acceptance.**  In any writer state, for any call that the writer
accepts (what it wrote fitting `fp.read`, a `dict` argument being a JSON object): the
`CallLaws` that `C01_sim_step` assumes hold — `EncOk` for a container; `PreambleLaws` with
`TextLaws` built from the codec proofs; `MetaLaws` with the reader's newline guess (`hguess`)
and `json.loads` (`hloads`, `hobj`) from `JsonLaws`; `DiffCallLaws` with `DiffLaws` (the writer's
`PreparedWith` and the reader's `hencR` / `hbomR` name the same newline bytes). -/
theorem C01_call_laws_of_accepted (hjson : JsonLaws Dom dumps loadsText) (st : Writer.St) (c : Writer.Call)
    (hok : (Writer.step (Codecs.env dumps loadsText loadsBytes) Codecs.cfg st c).2 = .ok)
    (hwf : dictArgOk c = true) (hdom : dictArgIn Dom c)
    (hsz : (Writer.step (Codecs.env dumps loadsText loadsBytes) Codecs.cfg st c).1.out.length ≤ Reader.maxRead) :
    Nonempty (CallLaws (Codecs.env dumps loadsText loadsBytes) Codecs.cfg st c) :=
  callLaws_exist hjson st c hok hwf hdom hsz

/-- **The laws of a program, from acceptance**, and their faithfulness. -/
theorem C01_laws_of_accepted (hjson : JsonLaws Dom dumps loadsText) (enc : Name) (calls : List Writer.Call)
    (hok : ∀ r ∈ (Writer.run (Codecs.env dumps loadsText loadsBytes) Codecs.cfg (some enc) t!"1.0" calls).2, r = .ok)
    (hwf : DictArgs calls) (hdom : DictsIn Dom calls)
    (hsize : (Writer.run (Codecs.env dumps loadsText loadsBytes) Codecs.cfg (some enc) t!"1.0" calls).1.out.length
      ≤ Reader.maxRead) :
    ∃ laws : ProgramLaws (Codecs.env dumps loadsText loadsBytes) Codecs.cfg enc calls,
      ProgramFaithfulFrom (Codecs.env dumps loadsText loadsBytes) Codecs.cfg
        (Writer.init (some enc) t!"1.0").1 calls laws.calls :=
  laws_of_accepted hjson enc calls hok hwf hdom hsize

/-- … as data (the choice is immaterial: `C01_written_any`, `C01_faithful_any`) -/
noncomputable def lawsOfAccepted (hjson : JsonLaws Dom dumps loadsText) (enc : Name) (calls : List Writer.Call)
    (hok : ∀ r ∈ (Writer.run (Codecs.env dumps loadsText loadsBytes) Codecs.cfg (some enc) t!"1.0" calls).2, r = .ok)
    (hwf : DictArgs calls) (hdom : DictsIn Dom calls)
    (hsize : (Writer.run (Codecs.env dumps loadsText loadsBytes) Codecs.cfg (some enc) t!"1.0" calls).1.out.length
      ≤ Reader.maxRead) : ProgramLaws (Codecs.env dumps loadsText loadsBytes) Codecs.cfg enc calls :=
  Classical.choose (C01_laws_of_accepted dumps loadsText loadsBytes hjson enc calls hok hwf hdom hsize)

/-- whatever laws are given for the calls of a program of the concrete environment, the contents
they determine are `contentOfCall` of the calls -/
theorem C01_written_any (st : Writer.St) (calls : List Writer.Call)
    (Ls : ProgramLawsFrom (Codecs.env dumps loadsText loadsBytes) Codecs.cfg st calls) :
    writtenFrom (Codecs.env dumps loadsText loadsBytes) Codecs.cfg st calls Ls = calls.map contentOfCall :=
  writtenFrom_eq calls st Ls

theorem C01_faithful_any (hjson : JsonLaws Dom dumps loadsText) (st : Writer.St) (calls : List Writer.Call)
    (hwf : DictArgs calls) (hdom : DictsIn Dom calls)
    (Ls : ProgramLawsFrom (Codecs.env dumps loadsText loadsBytes) Codecs.cfg st calls) :
    ProgramFaithfulFrom (Codecs.env dumps loadsText loadsBytes) Codecs.cfg st calls Ls :=
  programFaithful_any hjson calls st hwf hdom Ls

/-- **The whole-run round trip for the concrete codecs.**  For `Codecs.env dumps loadsText loadsBytes`
(JSON a parameter subject to `JsonLaws Dom`, nothing assumed of `loadsBytes`) and the BOM table of
the repository: for every constructor encoding and every list of public calls that the writer
accepts and whose `dict` arguments lie in `Dom`, the reader — with any positive block size — run on the bytes written yields records and
ends normally; there is one record per call after the main one; their contents are, in order,
`.container` for the main section and `contentOfCall c` for every call `c` (the text written with
its final line ending appended when missing, the dict, the diff bytes with their newline
appended when missing — functions of the call's arguments); their section ids are `#diffx` and
`secIds 1 calls`; and the records are the `expectedRecords` (lines, options) of `C01_run` for some
laws. -/
theorem C01_run_concrete (hjson : JsonLaws Dom dumps loadsText) (chunk : Nat) (hc : 0 < chunk)
    (enc : Name) (calls : List Writer.Call)
    (hok : ∀ r ∈ (Writer.run (Codecs.env dumps loadsText loadsBytes) Codecs.cfg (some enc) t!"1.0" calls).2, r = .ok)
    (hwf : DictArgs calls) (hdom : DictsIn Dom calls)
    (hsize : (Writer.run (Codecs.env dumps loadsText loadsBytes) Codecs.cfg (some enc) t!"1.0" calls).1.out.length
      ≤ Reader.maxRead) :
    ∃ recs, Reader.readAll (Codecs.env dumps loadsText loadsBytes) Codecs.cfg chunk
        (Writer.run (Codecs.env dumps loadsText loadsBytes) Codecs.cfg (some enc) t!"1.0" calls).1.out = (recs, .done) ∧
      recs.length = calls.length + 1 ∧
      recs.map (·.content) = .container :: calls.map contentOfCall ∧
      recs.map (·.sec) = SecId.main :: secIds 1 calls ∧
      ∃ laws : ProgramLaws (Codecs.env dumps loadsText loadsBytes) Codecs.cfg enc calls,
        recs = expectedRecords (Codecs.env dumps loadsText loadsBytes) Codecs.cfg enc calls laws := by
  obtain ⟨laws, F⟩ := laws_of_accepted hjson enc calls hok hwf hdom hsize
  refine ⟨expectedRecords _ _ enc calls laws, C01_run _ _ chunk hc enc calls hok laws, ?_, ?_,
    expectedRecords_secs _ _ enc calls hok laws, laws, rfl⟩
  · simp only [expectedRecords, List.length_cons, expectedFrom_length]
  · rw [expectedRecords_content _ _ enc calls laws F, writtenFrom_eq]

end Concrete

/-- `contentOfCall` spelled out: no law, no state, no environment -/
theorem C01_contentOfCall_spec :
    (∀ t enc indent le mime,
      contentOfCall (.preamble (.str t) enc indent le mime) = .text (normText t (textDos le t))) ∧
    (∀ j enc fmt, contentOfCall (.metadata (.dict j) enc fmt) = .metadata j) ∧
    (∀ b dtype enc le, contentOfCall (.diff (.bytes b) dtype enc le) = .diff (normBytes b (diffNl enc le b))) ∧
    (∀ enc, contentOfCall (.newChange enc) = .container ∧ contentOfCall (.newFile enc) = .container) :=
  ⟨fun _ _ _ _ _ => rfl, fun _ _ _ => rfl, fun _ _ _ _ => rfl, fun _ => ⟨rfl, rfl⟩⟩

/-- the newline of a diff section spelled out: the BOM-free LF / CRLF of the codec of
`encoding or 'ascii'`; the kind is the declared one, else CRLF exactly when the bytes up to and
including the first LF (as bytes) end with the CRLF -/
theorem C01_diffNl_spec (enc : Option Name) (le : Option Text) (b : Bytes) :
    diffNl enc le b = (diffCodec enc).nl (diffDos (diffCodec enc) le b) ∧
    diffCodec enc = (Codecs.lookup (enc.getD t!"ascii")).getD .ascii ∧
    (∀ l, diffDos (diffCodec enc) (some l) b = (l == t!"dos")) ∧
    diffDos (diffCodec enc) none b =
      (match findSub ((diffCodec enc).nl false) b with
       | some i => endsWith (b.take (i + ((diffCodec enc).nl false).length)) ((diffCodec enc).nl true)
       | none => false) ∧
    (Codecs.Codec.all.map fun c => (c.nl false, c.nl true)) =
      [([10], [13, 10]), ([10], [13, 10]), ([10], [13, 10]), ([10, 0], [13, 0, 10, 0]), ([10, 0], [13, 0, 10, 0]),
       ([0, 10], [0, 13, 0, 10]), ([10, 0, 0, 0], [13, 0, 0, 0, 10, 0, 0, 0]), ([10, 0, 0, 0], [13, 0, 0, 0, 10, 0, 0, 0]),
       ([0, 0, 0, 10], [0, 0, 0, 13, 0, 0, 0, 10]), ([10], [13, 10]), ([10], [13, 10])] :=
  ⟨rfl, rfl, fun _ => rfl, rfl, by decide⟩

theorem C01_secIds_spec (lvl : Nat) (cs : List Writer.Call) :
    secIds lvl [] = [] ∧
    (∀ enc, secIds lvl (.newChange enc :: cs) = ⟨1, .change⟩ :: secIds 2 cs) ∧
    (∀ enc, secIds lvl (.newFile enc :: cs) = ⟨2, .file⟩ :: secIds 3 cs) ∧
    (∀ t enc indent le mime, secIds lvl (.preamble t enc indent le mime :: cs) = ⟨lvl, .preamble⟩ :: secIds lvl cs) ∧
    (∀ m enc fmt, secIds lvl (.metadata m enc fmt :: cs) = ⟨lvl, .metadata⟩ :: secIds lvl cs) ∧
    (∀ b dtype enc le, secIds lvl (.diff b dtype enc le :: cs) = ⟨lvl, .diff⟩ :: secIds lvl cs) :=
  ⟨rfl, fun _ => rfl, fun _ => rfl, fun _ _ _ _ _ => rfl, fun _ _ _ => rfl, fun _ _ _ _ => rfl⟩

/-! ## Non-vacuity: a mock `json` satisfying `JsonLaws`, an eleven-call program -/

/-- a second dict: a non-ASCII value (escaped by `ensure_ascii`), a nested array, sorted keys -/
def j2 : Json := .obj [(t!"a", .str t!"é"), (t!"b", .arr [.null, .bool true])]

/-- what CPython's `json.dumps(…, indent=4, separators=(',', ': '), sort_keys=True)` prints -/
def tk : Text := t!"{\n    \"k\": 1\n}"
def t2 : Text := t!"{\n    \"a\": \"\\u00e9\",\n    \"b\": [\n        null,\n        true\n    ]\n}"

/-- `json.dumps` on the two dicts (raises on everything else) -/
def mockDumps : Json → EnvR Text
  | .obj [([107], .int 1)] => .ok tk
  | .obj [([97], .str [233]), ([98], .arr [.null, .bool true])] => .ok t2
  | _ => .err

/-- `json.loads` on the two documents followed by a newline (raises on everything else) -/
def mockLoads (t : Text) : EnvR Json :=
  if t = tk ++ [10] then .ok jk else if t = t2 ++ [10] then .ok j2 else .err

theorem mockDumps_ok {l : List (Text × Json)} {text : Text} (h : mockDumps (.obj l) = .ok text) :
    (Json.obj l = jk ∧ text = tk) ∨ (Json.obj l = j2 ∧ text = t2) := by
  unfold mockDumps at h
  split at h
  · rename_i heq
    exact .inl ⟨heq, (EnvR.ok.inj h).symm⟩
  · rename_i heq
    exact .inr ⟨heq, (EnvR.ok.inj h).symm⟩
  · cases h

/-- **the JSON laws hold of the mock**, for every dict (`Dom := fun _ => True`) -/
theorem mockJsonLaws : JsonLaws (fun _ => True) mockDumps mockLoads where
  ascii := by
    intro l text _ h
    rcases mockDumps_ok h with ⟨-, rfl⟩ | ⟨-, rfl⟩ <;> decide
  noCR := by
    intro l text _ h
    rcases mockDumps_ok h with ⟨-, rfl⟩ | ⟨-, rfl⟩ <;> decide
  loads := by
    intro l text _ h
    rcases mockDumps_ok h with ⟨e, rfl⟩ | ⟨e, rfl⟩
    · rw [e]
      rfl
    · rw [e]
      rfl

/-- the concrete environment: the codecs and the mock `json` (`json.loads(bytes)` is never
called by the round trip: it raises) -/
def menv : Env := Codecs.env mockDumps mockLoads (fun _ => .err)

/-- a UTF-16 (BOM) preamble that starts with U+FEFF, indented, CRLF detected on its first line;
metadata under UTF-16 (BOM); a Latin-1 change; a preamble with `line_endings='dos'` declared on
a text that holds no CR; Latin-1 metadata with an escaped non-ASCII value; a UTF-16-BE file with
its metadata; a diff whose CRLF is detected on the bytes; a second file, inheriting Latin-1,
with UTF-8 metadata and a UTF-16 diff with `line_endings='unix'` -/
def mprog : List Writer.Call :=
  [.preamble (.str t!"\uFEFFhéllo 😀\r\nwörld") (some t!"utf-16") (some 2) none (some t!"text/plain"),
   .metadata (.dict jk) (some t!"utf-16") t!"json",
   .newChange (some t!"latin1"),
   .preamble (.str t!"ça\nva") none none (some t!"dos") none,
   .metadata (.dict j2) none t!"json",
   .newFile (some t!"utf-16-be"),
   .metadata (.dict jk) none t!"json",
   .diff (.bytes b!"-a\r\n+b") (some t!"text") none none,
   .newFile none,
   .metadata (.dict jk) (some t!"UTF-8") t!"json",
   .diff (.bytes [45, 0, 120, 0, 10, 0, 43, 0, 121, 0, 10, 0]) none (some t!"utf-16") (some t!"unix")]

/-- both from one run of the writer in the kernel -/
theorem mprog_accepted : (∀ r ∈ (Writer.run menv Codecs.cfg (some t!"utf-8") t!"1.0" mprog).2, r = .ok) ∧
    (Writer.run menv Codecs.cfg (some t!"utf-8") t!"1.0" mprog).1.out.length = 706 := by decide +kernel

theorem mprog_dicts : DictArgs mprog := by decide

def mcontents : List Reader.Content :=
  [.container,
   .text t!"\uFEFFhéllo 😀\r\nwörld\r\n",
   .metadata jk,
   .container,
   .text t!"ça\nva\r\n",
   .metadata j2,
   .container,
   .metadata jk,
   .diff b!"-a\r\n+b\r\n",
   .container,
   .metadata jk,
   .diff [45, 0, 120, 0, 10, 0, 43, 0, 121, 0, 10, 0]]

def msecs : List SecId :=
  [⟨0, .diffx⟩, ⟨1, .preamble⟩, ⟨1, .metadata⟩, ⟨1, .change⟩, ⟨2, .preamble⟩, ⟨2, .metadata⟩, ⟨2, .file⟩,
   ⟨3, .metadata⟩, ⟨3, .diff⟩, ⟨2, .file⟩, ⟨3, .metadata⟩, ⟨3, .diff⟩]

theorem mcontents_eq : .container :: mprog.map contentOfCall = mcontents := by rfl
theorem msecs_eq : SecId.main :: secIds 1 mprog = msecs := by rfl

theorem mprog_reads {Dom : Json → Prop} (hjson : JsonLaws Dom mockDumps mockLoads) (hdom : DictsIn Dom mprog) :
    ∃ recs, Reader.readAll menv Codecs.cfg 7
        (Writer.run menv Codecs.cfg (some t!"utf-8") t!"1.0" mprog).1.out = (recs, .done) ∧
      recs.length = 12 ∧ recs.map (·.content) = mcontents ∧ recs.map (·.sec) = msecs := by
  have ha := mprog_accepted
  unfold menv at ha ⊢
  obtain ⟨recs, h1, h2, h3, h4, -⟩ := C01_run_concrete mockDumps mockLoads (fun _ => .err) hjson 7 (by decide) t!"utf-8"
    mprog ha.1 mprog_dicts hdom (by rw [ha.2]; decide)
  exact ⟨recs, h1, h2, by rw [h3, mcontents_eq], by rw [h4, msecs_eq]⟩

/-- **`C01_run_concrete` instantiated** (block size 7): the reader ends normally on the 706 bytes,
with twelve records whose contents and section ids are the explicit lists above. -/
theorem C01_run_concrete_instance :
    ∃ recs, Reader.readAll menv Codecs.cfg 7
        (Writer.run menv Codecs.cfg (some t!"utf-8") t!"1.0" mprog).1.out = (recs, .done) ∧
      recs.length = 12 ∧ recs.map (·.content) = mcontents ∧ recs.map (·.sec) = msecs :=
  mprog_reads mockJsonLaws (dictsIn_true _)

theorem jk_representable : Json.Representable (fun _ => True) jk := by
  simp [jk, Json.Representable, Json.RepresentableItems, Text.increasing, Text.jsonStr, Text.noSurrogatePair]

theorem j2_representable : Json.Representable (fun _ => True) j2 := by
  simp [j2, Json.Representable, Json.RepresentableItems, Json.RepresentableList, Text.increasing, Text.lt,
    Text.jsonStr, Text.noSurrogatePair]

theorem mprog_representable : DictsIn (Json.Representable (fun _ => True)) mprog := by
  refine (dictsIn_iff _ _).mpr ?_
  simp [mprog, dictArgIn, jk_representable, j2_representable]

/-- **`C01_run_concrete` instantiated with the domain intended for CPython**, `Dom :=
Json.Representable` (the laws of the mock restricted to it, `JsonLaws.mono`; the premise
`DictsIn` is `mprog_representable`, not trivial here) -/
theorem C01_run_concrete_instance_dom :
    ∃ recs, Reader.readAll menv Codecs.cfg 7
        (Writer.run menv Codecs.cfg (some t!"utf-8") t!"1.0" mprog).1.out = (recs, .done) ∧
      recs.length = 12 ∧ recs.map (·.content) = mcontents ∧ recs.map (·.sec) = msecs :=
  mprog_reads (mockJsonLaws.mono (fun _ _ => trivial)) mprog_representable

set_option maxRecDepth 65536 in
/-- … true by evaluation as well -/
example :
    ((Reader.readAll menv Codecs.cfg 7 (Writer.run menv Codecs.cfg (some t!"utf-8") t!"1.0" mprog).1.out).1.map
        (·.content) == mcontents) = true ∧
    (Reader.readAll menv Codecs.cfg 7 (Writer.run menv Codecs.cfg (some t!"utf-8") t!"1.0" mprog).1.out).1.map
        (·.sec) = msecs ∧
    (Reader.readAll menv Codecs.cfg 7 (Writer.run menv Codecs.cfg (some t!"utf-8") t!"1.0" mprog).1.out).2 = .done := by
  decide +kernel

/-- a UTF-32 (BOM) preamble that starts with U+FEFF, indented, CRLF detected on its first line;
metadata under UTF-8-SIG; a windows-1252 change; a preamble with `line_endings='dos'` declared on a
text without CR whose euro sign, curly quotes and trade mark sign are bytes `0x80–0x9F`; cp1252
metadata; a UTF-32-BE file with its metadata; a diff whose CRLF is detected on the bytes; a second
file, inheriting cp1252, with UTF-8-SIG metadata and a UTF-32 diff whose (eight-byte) CRLF is
detected on the bytes and appended.  (The bytes written, 799, are those `pydiffx` writes.) -/
def mprog2 : List Writer.Call :=
  [.preamble (.str t!"\uFEFFhéllo 😀\r\nwörld") (some t!"utf-32") (some 2) none (some t!"text/plain"),
   .metadata (.dict jk) (some t!"utf-8-sig") t!"json",
   .newChange (some t!"windows-1252"),
   .preamble (.str t!"h€llo “x”\nva™") none none (some t!"dos") none,
   .metadata (.dict j2) none t!"json",
   .newFile (some t!"utf-32-be"),
   .metadata (.dict jk) none t!"json",
   .diff (.bytes b!"-a\r\n+b") (some t!"text") none none,
   .newFile none,
   .metadata (.dict jk) (some t!"UTF-8-SIG") t!"json",
   .diff (.bytes [45, 0, 0, 0, 120, 0, 0, 0, 13, 0, 0, 0, 10, 0, 0, 0, 43, 0, 0, 0, 121, 0, 0, 0]) none
     (some t!"utf32") none]

theorem mprog2_accepted : (∀ r ∈ (Writer.run menv Codecs.cfg (some t!"utf-8") t!"1.0" mprog2).2, r = .ok) ∧
    (Writer.run menv Codecs.cfg (some t!"utf-8") t!"1.0" mprog2).1.out.length = 799 := by decide +kernel

theorem mprog2_dicts : DictArgs mprog2 := by decide

def mcontents2 : List Reader.Content :=
  [.container,
   .text t!"\uFEFFhéllo 😀\r\nwörld\r\n",
   .metadata jk,
   .container,
   .text t!"h€llo “x”\nva™\r\n",
   .metadata j2,
   .container,
   .metadata jk,
   .diff b!"-a\r\n+b\r\n",
   .container,
   .metadata jk,
   .diff [45, 0, 0, 0, 120, 0, 0, 0, 13, 0, 0, 0, 10, 0, 0, 0, 43, 0, 0, 0, 121, 0, 0, 0, 13, 0, 0, 0, 10, 0, 0, 0]]

theorem mcontents2_eq : .container :: mprog2.map contentOfCall = mcontents2 := by rfl
theorem msecs2_eq : SecId.main :: secIds 1 mprog2 = msecs := by rfl

/-- **`C01_run_concrete` instantiated on the second program** (block size 7) -/
theorem C01_run_concrete_instance2 :
    ∃ recs, Reader.readAll menv Codecs.cfg 7
        (Writer.run menv Codecs.cfg (some t!"utf-8") t!"1.0" mprog2).1.out = (recs, .done) ∧
      recs.length = 12 ∧ recs.map (·.content) = mcontents2 ∧ recs.map (·.sec) = msecs := by
  have ha := mprog2_accepted
  unfold menv at ha ⊢
  obtain ⟨recs, h1, h2, h3, h4, -⟩ := C01_run_concrete mockDumps mockLoads (fun _ => .err) mockJsonLaws 7 (by decide)
    t!"utf-8" mprog2 ha.1 mprog2_dicts (dictsIn_true _) (by rw [ha.2]; decide)
  exact ⟨recs, h1, h2, by rw [h3, mcontents2_eq], by rw [h4, msecs2_eq]⟩

set_option maxRecDepth 65536 in
/-- … true by evaluation as well -/
example :
    ((Reader.readAll menv Codecs.cfg 7 (Writer.run menv Codecs.cfg (some t!"utf-8") t!"1.0" mprog2).1.out).1.map
        (·.content) == mcontents2) = true ∧
    (Reader.readAll menv Codecs.cfg 7 (Writer.run menv Codecs.cfg (some t!"utf-8") t!"1.0" mprog2).1.out).1.map
        (·.sec) = msecs ∧
    (Reader.readAll menv Codecs.cfg 7 (Writer.run menv Codecs.cfg (some t!"utf-8") t!"1.0" mprog2).1.out).2 = .done := by
  decide +kernel

def cEnc : Name := t!"utf-8"
def ctext : Text := t!"héllo 😀\r\nwörld"
/-- a UTF-16 preamble (own encoding, indented), a change, a Latin-1 file, its metadata, a diff -/
def ccall1 : Writer.Call := .preamble (.str ctext) (some t!"utf-16") (some 2) none (some t!"text/plain")
def ccall2 : Writer.Call := .newChange none
def ccall3 : Writer.Call := .newFile (some t!"latin1")
def ccall4 : Writer.Call := .metadata (.dict jk) none t!"json"
def ccall5 : Writer.Call := .diff (.bytes b!"-a\n+b") (some t!"text") none none
def cprog : List Writer.Call := [ccall1, ccall2, ccall3, ccall4, ccall5]

/-- the constant `json` of `cenv` satisfies the laws on the one dict it knows -/
theorem cJsonLaws : JsonLaws (· = jk) (fun _ => .ok t!"{\"k\": 1}") (fun _ => .ok jk) where
  ascii l text _ h := by cases h; decide
  noCR l text _ h := by cases h; decide
  loads l text hd _ := by rw [hd]

theorem cprog_accepted : (∀ r ∈ (Writer.run cenv Codecs.cfg (some cEnc) t!"1.0" cprog).2, r = .ok) ∧
    (Writer.run cenv Codecs.cfg (some cEnc) t!"1.0" cprog).1.out.length ≤ Reader.maxRead := by decide +kernel

theorem cprog_dom : DictsIn (· = jk) cprog := by
  refine (dictsIn_iff _ _).mpr ?_
  simp [cprog, ccall1, ccall2, ccall3, ccall4, ccall5, dictArgIn]

/-- `C01_run_content_equal` instantiated: the contents read back (block size 7) are the contents
written — the UTF-16 text with the CRLF detected on its first line appended, the metadata, the
diff bytes with the LF appended.  The laws the theorem asks for are those acceptance gives
(`C01_laws_of_accepted`), and what they say was written is `contentOfCall` (`C01_written_any`). -/
theorem C01_run_content_instance :
    (Reader.readAll cenv Codecs.cfg 7 (Writer.run cenv Codecs.cfg (some cEnc) t!"1.0" cprog).1.out).1.map
        (·.content) =
      [.container, .text t!"héllo 😀\r\nwörld\r\n", .container, .container, .metadata jk, .diff b!"-a\n+b\n"] := by
  obtain ⟨laws, F⟩ := C01_laws_of_accepted _ _ _ cJsonLaws cEnc cprog cprog_accepted.1 (by decide) cprog_dom
    cprog_accepted.2
  have h := (C01_run_content_equal cenv Codecs.cfg 7 (by decide) cEnc cprog cprog_accepted.1 laws F).1
  exact h.trans (congrArg _ (C01_written_any _ _ _ _ cprog laws.calls))

set_option maxRecDepth 16384 in
/-- … true by evaluation as well -/
example :
    ((Reader.readAll cenv Codecs.cfg 7 (Writer.run cenv Codecs.cfg (some cEnc) t!"1.0" cprog).1.out).1.map
        (·.content) ==
      [.container, .text t!"héllo 😀\r\nwörld\r\n", .container, .container, .metadata jk, .diff b!"-a\n+b\n"]) =
      true := by decide +kernel

/-- **A diff whose first encoded LF is misaligned.**  The UTF-16-LE bytes of `'\u0d41\u0a00\u0100'`
(no line ending at all) contain `0D 00 0A 00` across code-unit boundaries; `guess_line_endings`
works on bytes: the writer declares `line_endings=dos` and appends a UTF-16 CRLF.  The reader
is told the kind and gives the bytes back, newline appended — as `contentOfCall` says. -/
def misProg : List Writer.Call :=
  [.newChange none, .newFile none, .metadata (.dict jk) none t!"json",
   .diff (.bytes [0x41, 0x0D, 0x00, 0x0A, 0x00, 0x01]) none (some t!"utf-16-le") none]

theorem C01_diff_misaligned :
    (∀ r ∈ (Writer.run menv Codecs.cfg (some t!"utf-8") t!"1.0" misProg).2, r = .ok) ∧
    misProg.map contentOfCall =
      [.container, .container, .metadata jk, .diff [0x41, 0x0D, 0x00, 0x0A, 0x00, 0x01, 0x0D, 0x00, 0x0A, 0x00]] ∧
    (((Reader.readAll menv Codecs.cfg 7 (Writer.run menv Codecs.cfg (some t!"utf-8") t!"1.0" misProg).1.out).1.map
        (·.content)).drop 1 == misProg.map contentOfCall) = true ∧
    (Reader.readAll menv Codecs.cfg 7 (Writer.run menv Codecs.cfg (some t!"utf-8") t!"1.0" misProg).1.out).2 = .done := by
  have h : (∀ r ∈ (Writer.run menv Codecs.cfg (some t!"utf-8") t!"1.0" misProg).2, r = .ok) ∧
      (((Reader.readAll menv Codecs.cfg 7 (Writer.run menv Codecs.cfg (some t!"utf-8") t!"1.0" misProg).1.out).1.map
        (·.content)).drop 1 == misProg.map contentOfCall) = true ∧
      (Reader.readAll menv Codecs.cfg 7 (Writer.run menv Codecs.cfg (some t!"utf-8") t!"1.0" misProg).1.out).2 = .done := by
    decide +kernel
  exact ⟨h.1, by rfl, h.2⟩

/-- **`JsonLaws.ascii` cannot be dropped.**  With a `dumps` that returned the non-ASCII text
`{"k": "\u0d41\u0a00\u0100"}` unescaped (as `ensure_ascii=False` would), without any CR, and a
`loads` that parses it back: under `utf-16-le` the writer accepts (it guesses `unix` on the
text and appends `0A 00`), the reader guesses on the bytes, finds the misaligned `0D 00 0A 00`,
expects a CRLF at the end and raises `DiffXParseError`. -/
def badDumps : Json → EnvR Text := fun _ => .ok [123, 34, 107, 34, 58, 32, 34, 0x0D41, 0x0A00, 0x0100, 34, 125]
def benv : Env := Codecs.env badDumps (fun _ => .ok jk) (fun _ => .err)

theorem C01_json_ascii_needed :
    (∀ l text, badDumps (.obj l) = .ok text → 13 ∉ text) ∧
    (∀ l text, badDumps (.obj l) = .ok text → (fun _ => EnvR.ok jk) (normText text false) = EnvR.ok jk) ∧
    (∀ r ∈ (Writer.run benv Codecs.cfg (some t!"utf-8") t!"1.0" [.metadata (.dict jk) (some t!"utf-16-le") t!"json"]).2,
      r = .ok) ∧
    (Reader.readAll benv Codecs.cfg 7
      (Writer.run benv Codecs.cfg (some t!"utf-8") t!"1.0" [.metadata (.dict jk) (some t!"utf-16-le") t!"json"]).1.out).2 =
      .parseError 2 none := by
  refine ⟨?_, fun _ _ _ => rfl, by decide +kernel⟩
  intro l text h
  cases h
  decide

/-- **`DictArgs` is about the model's typing.**  `.dict (.int 1)` is not a Python `dict`; the model
writer accepts it, and the reader rejects the `1` that `json.loads` gives back. -/
def denv : Env := Codecs.env (fun _ => .ok t!"1") (fun _ => .ok (.int 1)) (fun _ => .err)

theorem C01_dict_arg_artefact :
    (∀ r ∈ (Writer.run denv Codecs.cfg (some t!"utf-8") t!"1.0" [.metadata (.dict (.int 1)) none t!"json"]).2, r = .ok) ∧
    (Reader.readAll denv Codecs.cfg 7
      (Writer.run denv Codecs.cfg (some t!"utf-8") t!"1.0" [.metadata (.dict (.int 1)) none t!"json"]).1.out).2 =
      .parseError 1 none ∧
    ¬ DictArgs [.metadata (.dict (.int 1)) none t!"json"] := by
  decide +kernel

end Diffx.C01
