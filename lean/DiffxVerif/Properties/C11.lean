import DiffxVerif.Lemmas.Header
/-!
# C11 — Header lines are accepted iff they match the specification header grammar

> A header line is accepted exactly when it has the form "#", 0-3 dots, a section
> name, ":", and optionally one space followed by key=value pairs separated by
> ", " with keys matching [A-Za-z][A-Za-z0-9_-]* and values matching
> [A-Za-z0-9/._-]+ in their entirety; every other line in header position is
> rejected with a parse error (never accepted, never another exception). Accepted
> options are reported verbatim, integer-valued ones as integers.

`Header.parseHeader valid h` is the model of `_read_header` from the regular
expression match on (`valid` = ids allowed at this point, C10);
`Spec.headerLine` / `Spec.GrammarOk` is the grammar.  The statements hold for
**every** byte string `h`.
-/
namespace Diffx.C11
open Diffx Diffx.Header

/-- **Grammar ⇒ accepted**, with the options the specification says. -/
theorem C11_accept (valid : List SecId) (sec : SecId) (pairs : List (Bytes × Bytes))
    (hg : Spec.GrammarOk sec pairs) (hv : sec ∈ valid) :
    parseHeader valid (Spec.headerLine sec pairs) = .ok ⟨sec, Spec.reported pairs⟩ :=
  parseHeader_headerLine hg hv

/-- **Accepted ⇒ grammar.** Any line the reader accepts is a rendering of a
grammatical header, and the options reported are exactly those. -/
theorem C11_only_grammar (valid : List SecId) (h : Bytes) (hdr : Hdr)
    (hok : parseHeader valid h = .ok hdr) :
    ∃ pairs, Spec.GrammarOk hdr.sec pairs ∧ h = Spec.headerLine hdr.sec pairs ∧
      hdr.sec ∈ valid ∧ hdr.opts = Spec.reported pairs :=
  parseHeader_ok_grammar hok

/-- the two directions together: acceptance (for some allowed id) is membership
in the grammar's language -/
theorem C11_iff (valid : List SecId) (h : Bytes) :
    (∃ hdr, parseHeader valid h = .ok hdr) ↔
      ∃ sec pairs, Spec.GrammarOk sec pairs ∧ sec ∈ valid ∧ h = Spec.headerLine sec pairs := by
  constructor
  · rintro ⟨hdr, hok⟩
    obtain ⟨pairs, hg, hh, hv, _⟩ := C11_only_grammar valid h hdr hok
    exact ⟨hdr.sec, pairs, hg, hv, hh⟩
  · rintro ⟨sec, pairs, hg, hv, rfl⟩
    exact ⟨_, C11_accept valid sec pairs hg hv⟩

/-- **Rejection is always one of the four parse-error causes** (the reader turns
each into `DiffXParseError`; see `Reader.readHeader`): the result type has no
other inhabitant, and a rejected line is never also accepted. -/
theorem C11_reject_is_parse_error (valid : List SecId) (h : Bytes)
    (hn : ¬ ∃ sec pairs, Spec.GrammarOk sec pairs ∧ sec ∈ valid ∧ h = Spec.headerLine sec pairs) :
    ∃ e, parseHeader valid h = .error e := by
  cases hp : parseHeader valid h with
  | error e => exact ⟨e, rfl⟩
  | ok hdr => exact absurd ((C11_iff valid h).mp ⟨hdr, hp⟩) hn

/-- **Verbatim.** With distinct keys every pair is reported under its key with
its value converted by `int()` when it is an integer literal. -/
theorem C11_verbatim (pairs : List (Bytes × Bytes)) (hd : (pairs.map (·.1)).Nodup)
    (k v : Bytes) (hm : (k, v) ∈ pairs) :
    (Spec.reported pairs).get k = some (convert v) := by
  rw [reported_get_eq hd, Assoc.lookup_of_mem_nodup hd hm]
  rfl

/-- nothing is reported that was not written -/
theorem C11_no_extra (pairs : List (Bytes × Bytes)) (k : Bytes) (hk : k ∉ pairs.map (·.1)) :
    (Spec.reported pairs).get k = none := by
  exact reportedFrom_get_notin [] hk

/-- **Integers.** A plain decimal literal (optionally negative, at most 4300
digits) is reported as that integer … -/
theorem C11_int_plain (ds : Bytes) (hne : ds ≠ []) (hd : ∀ b ∈ ds, isDigit b = true)
    (hl : ds.length ≤ maxIntDigits) :
    convert ds = .int (digitsVal ds) ∧ convert (45 :: ds) = .int (-(digitsVal ds : Int)) :=
  convert_plain ds hne hd hl

/-- … and a value containing a letter, `.` or `/` is reported verbatim as a string. -/
theorem C11_str (v : Bytes) (b : UInt8) (hb : b ∈ v) (hc : isAlpha b = true ∨ b = 46 ∨ b = 47) :
    convert v = .str v := by
  obtain ⟨h1, h2, h3⟩ := special_not_digit b hc
  have hok : pyIntOk v = false := by
    unfold pyIntOk
    simp only
    split
    · rename_i r
      have hbr : b ∈ r := by
        rcases List.mem_cons.mp hb with rfl | hbr
        · exact absurd rfl h3
        · exact hbr
      rw [digitsUnd_special _ hbr ⟨h1, h2⟩]; rfl
    · rw [digitsUnd_special _ hb ⟨h1, h2⟩]; rfl
  simp [convert, hok]

/-- **Known finding D18** (kept visible; the full "integers ⇔ plain decimal
literals" statement is false of code and model alike): Python's `int()` also
accepts `_` between digits, so the value `1_0` is reported as the integer 10. -/
theorem C11_int_underscore_witness : convert b!"1_0" = .int 10 := by decide +kernel

example : parseHeader [SecId.change] b!"#.change: a.=a" = .error (.badKey 10) := by decide +kernel
example : parseHeader [SecId.change] b!"#.change: key=a+b" = .error (.badVal 14) := by decide +kernel
example : parseHeader [SecId.mainPreamble] b!"#.preamble: mimetype=text/plain, length=12" =
    .ok ⟨SecId.mainPreamble, [(b!"mimetype", .str b!"text/plain"), (b!"length", .int 12)]⟩ := by decide +kernel
example : Spec.GrammarOk SecId.mainPreamble [(b!"mimetype", b!"text/plain"), (b!"length", b!"12")] := by
  refine ⟨by decide +kernel, ?_⟩
  intro p hp
  simp at hp
  rcases hp with rfl | rfl <;> decide

end Diffx.C11
